import Seccomp.Model.Lower
/-!
# One condition: a 64-bit relation decided on two 32-bit words

`holds_plan` reads `Cnd.holds` off the table `Op.plan` that `condToks` follows; `cond_spec` runs the emitted code.
`Piece`, what every level above knows of the code below it, is defined here, in front of its first user `runT_hiJumps`.
-/

variable {L : Type} {P Q : L → Prop} {p q : List (Tok L)} (w : Nat → Word)

theorem toNat_split (a : BitVec 64) : a.toNat = (hi a).toNat * 2^32 + (lo a).toNat := by
  have h : a.toNat / 2^32 < 2^32 := Nat.div_lt_of_lt_mul a.isLt
  rw [hi, lo, BitVec.extractLsb'_toNat, BitVec.extractLsb'_toNat, Nat.shiftRight_zero, Nat.shiftRight_eq_div_pow,
    Nat.mod_eq_of_lt h, Nat.div_add_mod']

theorem digits_lex (h1 l1 h2 l2 : Nat) (b1 : l1 < 2^32) (b2 : l2 < 2^32) :
    (h1 * 2^32 + l1 = h2 * 2^32 + l2 ↔ h1 = h2 ∧ l1 = l2) ∧
    (h1 * 2^32 + l1 < h2 * 2^32 + l2 ↔ h1 < h2 ∨ (h2 = h1 ∧ l1 < l2)) ∧
    (h1 * 2^32 + l1 ≤ h2 * 2^32 + l2 ↔ h1 < h2 ∨ (h2 = h1 ∧ l1 ≤ l2)) := by
  omega

theorem eq_split (a v : BitVec 64) : (a = v) ↔ (hi a = hi v ∧ lo a = lo v) := by
  simp only [← BitVec.toNat_inj, toNat_split a, toNat_split v, (digits_lex _ _ _ _ (lo a).isLt (lo v).isLt).1]

theorem beq_split (a v : BitVec 64) : (a == v) = (hi a == hi v && lo a == lo v) := by
  rw [Bool.eq_iff_iff]; simp [eq_split]

theorem ult_split (v a : BitVec 64) :
    v.ult a = ((hi v).ult (hi a) || (hi a == hi v && (lo v).ult (lo a))) := by
  rw [Bool.eq_iff_iff]
  simp only [BitVec.ult, decide_eq_true_eq, Bool.or_eq_true, Bool.and_eq_true, beq_iff_eq, ← BitVec.toNat_inj,
    toNat_split a, toNat_split v, (digits_lex _ _ _ _ (lo v).isLt (lo a).isLt).2.1]

theorem ule_split (v a : BitVec 64) :
    v.ule a = ((hi v).ult (hi a) || (hi a == hi v && (lo v).ule (lo a))) := by
  rw [Bool.eq_iff_iff]
  simp only [BitVec.ult, BitVec.ule, decide_eq_true_eq, Bool.or_eq_true, Bool.and_eq_true, beq_iff_eq,
    ← BitVec.toNat_inj, toNat_split a, toNat_split v, (digits_lex _ _ _ _ (lo v).isLt (lo a).isLt).2.2]

theorem hi_and (a v : BitVec 64) : hi (a &&& v) = hi a &&& hi v := BitVec.extractLsb'_and
theorem lo_and (a v : BitVec 64) : lo (a &&& v) = lo a &&& lo v := BitVec.extractLsb'_and
theorem hi_zero : hi 0#64 = 0#32 := rfl
theorem lo_zero : lo 0#64 = 0#32 := rfl

theorem holds_halves (c : Cnd) (args : Nat → BitVec 64) :
    c.holds args =
      let ah := hi (args c.arg); let al := lo (args c.arg); let vh := hi c.val; let vl := lo c.val
      match c.op with
      | .eq => !(ah != vh) && (al == vl)
      | .ne => (ah != vh) || (al != vl)
      | .gt => vh.ult ah || (!(ah != vh) && vl.ult al)
      | .ge => vh.ult ah || (!(ah != vh) && vl.ule al)
      | .lt => ah.ult vh || (!(ah != vh) && al.ult vl)
      | .le => ah.ult vh || (!(ah != vh) && al.ule vl)
      | .set => ((ah &&& vh) != 0#32) || ((al &&& vl) != 0#32)
      | .nset => !((ah &&& vh) != 0#32) && ((al &&& vl) == 0#32) := by
  unfold Cnd.holds
  cases c.op <;>
    simp only [bne, beq_split, ult_split, ule_split, hi_and, lo_and, hi_zero, lo_zero, Bool.not_and, Bool.not_not,
      Bool.beq_comm (a := hi c.val)]

/-- How an operation is compiled: the tests made on the high word, in order, each with the verdict it
    gives when it fires, and the test on the low word that decides when none of them fires. -/
def Op.plan : Op → List (Cond × Bool) × Cond
  | .eq => ([(.ne, false)], .eq)
  | .ne => ([(.ne, true)], .ne)
  | .gt => ([(.gt, true), (.ne, false)], .gt)
  | .ge => ([(.gt, true), (.ne, false)], .ge)
  | .lt => ([(.lt, true), (.ne, false)], .lt)
  | .le => ([(.lt, true), (.ne, false)], .le)
  | .set => ([(.set, true)], .set)
  | .nset => ([(.set, false)], .nset)

def hiVerdict (ah vh : Word) : List (Cond × Bool) → Bool → Bool
  | [], low => low
  | t :: ts, low => if t.1.eval ah vh then t.2 else hiVerdict ah vh ts low

theorem holds_plan (c : Cnd) (args : Nat → BitVec 64) :
    c.holds args =
      hiVerdict (hi (args c.arg)) (hi c.val) c.op.plan.1 (c.op.plan.2.eval (lo (args c.arg)) (lo c.val)) := by
  rw [holds_halves]
  -- `Cond.eval` is left to `rfl`: unfolded by `simp` under an `if` it leaves the Decidable instance behind
  cases c.op <;>
    simp only [hiVerdict, Op.plan, Bool.if_true_left, Bool.if_false_left, Bool.decide_eq_true] <;> rfl

/-- What every level of the compiler proofs knows about the code of the levels below it: it places
    only labels in `P`, so a jump to any other label passes over it (`Piece.contAt`), and it has no raw
    jump, so it may stand in front of the group's `ja 1` (`Piece.ja`, in `GroupCompiled`). -/
def Piece (P : L → Prop) (p : List (Tok L)) : Prop :=
  ∀ t ∈ p, match t with
    | .lab x => P x
    | .ins (.ja _) => False
    | .ins _ => True

theorem Piece.nil : Piece P ([] : List (Tok L)) := fun _ h => nomatch h

theorem Piece.lab {x : L} (hx : P x) (hp : Piece P p) : Piece P (.lab x :: p) :=
  List.forall_mem_cons.2 ⟨hx, hp⟩

theorem Piece.ins {i : LInstr L} (hi : ∀ n, i ≠ .ja n) (hp : Piece P p) : Piece P (.ins i :: p) :=
  List.forall_mem_cons.2 ⟨match i, hi with
    | .ja n, hi => hi n rfl
    | .ld _, _ | .ret _, _ | .jif .., _ => trivial, hp⟩

theorem Piece.append (hp : Piece P p) (hq : Piece P q) : Piece P (p ++ q) :=
  List.forall_mem_append.2 ⟨hp, hq⟩

theorem Piece.mono (hp : Piece P p) (h : ∀ x, P x → Q x) : Piece Q p := fun t ht =>
  match t, hp t ht with
  | .lab _, hx => h _ hx
  | .ins (.ja _), hx => hx
  | .ins (.ld _), _ | .ins (.ret _), _ | .ins (.jif ..), _ => trivial

theorem Piece.labels (hp : Piece P p) : ∀ x ∈ labelsOf p, P x := fun _ hx => hp _ (mem_labelsOf.1 hx)

theorem Piece.contAt [DecidableEq L] (hp : Piece P p) {x : L} (hx : ¬ P x) (q a) :
    contAt w x (p ++ q) a = contAt w x q a :=
  contAt_append_not_mem w x p q a fun h => hx (hp.labels x h)

theorem runT_jt (c : Cond) (k : Word) {tl fresh : PL} (h : tl ≠ fresh) (rest a) :
    runT w (jt c k tl fresh ++ rest) a = if c.eval a k then contAt w tl rest a else runT w rest a := by
  simp only [jt, List.cons_append, List.nil_append, runT_jif]
  split
  · exact contAt_cons_lab_ne _ _ _ _ _ h.symm
  · exact contAt_lab_self ..

theorem piece_jt (c k) {P : PL → Prop} {tl fresh : PL} (h : P fresh) : Piece P (jt c k tl fresh) :=
  .ins nofun (.lab h .nil)

def hiJumps (vh : Word) (yes no : PL) (f : Nat → PL) : Nat → List (Cond × Bool) → List (Tok PL)
  | _, [] => []
  | j, t :: ts => jt t.1 vh (if t.2 then yes else no) (f j) ++ hiJumps vh yes no f (j+1) ts

theorem condToks_plan (ly : Layout) (e l c : Nat) (cnd : Cnd) (m : PL) :
    condToks ly e l c cnd m =
      .ins (.ld (ly.hiOff cnd.arg)) ::
        (hiJumps (hi cnd.val) m (.noMatch e l) (.nextIns e l c) 0 cnd.op.plan.1 ++
          [.ins (.ld (ly.loOff cnd.arg)), .ins (.jif cnd.op.plan.2 (lo cnd.val) m (.noMatch e l)),
            .lab (.nextArg e l c)]) := by
  unfold condToks; cases cnd.op <;> rfl

theorem piece_hiJumps {vh yes no f} : ∀ ts j, Piece (∃ i, · = f i) (hiJumps vh yes no f j ts)
  | [], _ => .nil
  | _ :: ts, j => (piece_jt _ _ ⟨j, rfl⟩).append (piece_hiJumps ts (j+1))

theorem runT_hiJumps {vh vl : Word} {yes no : PL} {f : Nat → PL} (hy : ∀ j, yes ≠ f j) (hn : ∀ j, no ≠ f j)
    (ol : Nat) (c2 : Cond) (q : List (Tok PL)) (ah : Word) : ∀ ts j,
    ∃ a', runT w (hiJumps vh yes no f j ts ++ .ins (.ld ol) :: .ins (.jif c2 vl yes no) :: q) ah =
      contAt w (if hiVerdict ah vh ts (c2.eval (w ol) vl) then yes else no) q a'
  | [], _ => ⟨w ol, by rw [hiJumps, List.nil_append, runT_ld, runT_jif, hiVerdict]⟩
  | t :: ts, j => by
    have hx : ¬ ∃ i, (if t.2 then yes else no) = f i := by
      cases t.2
      · exact fun ⟨i, h⟩ => hn i h
      · exact fun ⟨i, h⟩ => hy i h
    simp only [hiJumps, List.append_assoc, hiVerdict]
    rw [runT_jt w _ _ (fun h => hx ⟨j, h⟩)]
    by_cases hc : t.1.eval ah vh = true
    · simp only [if_pos hc]
      exact ⟨ah, by rw [(piece_hiJumps _ _).contAt w hx, contAt_cons_ins, contAt_cons_ins]⟩
    · simp only [if_neg hc]
      exact runT_hiJumps hy hn ol c2 q ah ts (j+1)

/-- continue at `x` as seen from the end of one condition: `x` is looked up in `lab (nextArg e l c) :: rest`, because that
    marker is the last token of `condToks` and the label asked for may be it -/
abbrev K (e l c : Nat) (rest : List (Tok PL)) (x : PL) (a : Word) : Result :=
  contAt w x (.lab (.nextArg e l c) :: rest) a

theorem cond_spec (ly : Layout) (nr : Word) (args : Nat → BitVec 64) (hs : Sees ly w nr args)
    (e l c : Nat) (cnd : Cnd) (m : PL) (rest : List (Tok PL)) (a : Word)
    (hm : ∀ j, m ≠ .nextIns e l c j) :
    ∃ a', runT w (condToks ly e l c cnd m ++ rest) a =
      K w e l c rest (if cnd.holds args then m else .noMatch e l) a' := by
  rw [condToks_plan, holds_plan, ← hs.hi, ← hs.lo]
  simp only [List.cons_append, List.append_assoc, List.nil_append, runT_ld]
  exact runT_hiJumps w hm (fun j => by simp) _ _ _ _ _ 0
#print axioms cond_spec
