import Seccomp.Model.Asm

/-!
# One step of the resolver, and the states it passes through

`Reach b p s` is the resolver as a relation: `s` is a state it passes through on `p`, after a whole token (`b = true`) or
between the bridge steps of a conditional jump.  What holds of every assembled program is proved by induction over `Reach`.
The flag is there for the two facts that hold after whole tokens only (`AsmSim.code`, `FrontInv`).

`Reach` forgets how many bridge steps a jump took and how far they reach, so a bound that counts bridges would have to go
over the tokens, with `asmT_cons`; none is needed here.  `induction h` refuses `h : Reach true p s`: a fact about whole tokens is stated for every flag
under `b = true →` (as `AsmSim.code`) or proved by recursion with pattern matching (as `Reach.frontInv`).
-/

variable {L : Type} [DecidableEq L]

theorem St.get_cons (s : St L) (o : List Instr) (l l' : L) (n : Nat) :
    St.get ⟨o, (l, n) :: s.dest⟩ l' = if l = l' then some n else s.get l' := by
  simp only [St.get, List.find?_cons]
  split <;> simp_all

theorem St.get_cons_some {s : St L} {o : List Instr} {l l' : L} {n d : Nat}
    (h : St.get ⟨o, (l, n) :: s.dest⟩ l' = some d) : l' = l ∧ d = n ∨ l' ≠ l ∧ s.get l' = some d := by
  rw [St.get_cons] at h
  by_cases e : l = l'
  · rw [if_pos e] at h; exact .inl ⟨e.symm, (Option.some.inj h).symm⟩
  · rw [if_neg e] at h; exact .inr ⟨Ne.symm e, h⟩

theorem St.mem_of_get {s : St L} {l : L} {d : Nat} (h : s.get l = some d) : (l, d) ∈ s.dest := by
  obtain ⟨x, hx, rfl⟩ := Option.map_eq_some_iff.1 h
  have hl : x.1 = l := by simpa using List.find?_some hx
  exact hl ▸ List.mem_of_find?_eq_some hx

def DestLe (s : St L) : Prop := ∀ l d, s.get l = some d → d ≤ s.out.length

/-- what `bridge` puts in front of `out` for the destination `d` -/
inductive Bridge (out : List Instr) (d : Nat) : Instr → Prop
  | ret {k} : (out.drop (out.length - d)).head? = some (.ret k) → Bridge out d (.ret k)
  | ja : Bridge out d (.ja (out.length - d))

theorem bridge_error {s : St L} {l : L} {e : Err} (hb : bridge s l = .error e) : e = .backward ∧ s.get l = none := by
  unfold bridge at hb
  split at hb
  · cases hb; exact ⟨rfl, ‹_›⟩
  · split at hb <;> cases hb

theorem bridge_cases {s s' : St L} {l : L} (hb : bridge s l = .ok s') :
    ∃ d, s.get l = some d ∧
      (s.out.length - d ≤ 255 ∧ s' = s ∨
       255 < s.out.length - d ∧ ∃ b, Bridge s.out d b ∧ s' = ⟨b :: s.out, (l, s.out.length + 1) :: s.dest⟩) := by
  unfold bridge at hb
  split at hb
  · cases hb
  · rename_i d hd
    refine ⟨d, hd, ?_⟩
    split at hb <;> cases hb
    · exact .inl ⟨‹_›, rfl⟩
    · refine .inr ⟨by omega, _, ?_, rfl⟩
      split
      · exact .ret ‹_›
      · exact .ja

theorem bridge_dist {s s' : St L} {l : L} (hb : bridge s l = .ok s') :
    (∃ d, s'.get l = some d ∧ s'.out.length - d ≤ 255) ∧
    (∀ l', l' ≠ l → s'.get l' = s.get l') ∧
    (s'.out.length = s.out.length ∨ s'.out.length = s.out.length + 1 ∧ s'.get l = some s'.out.length) := by
  obtain ⟨d, hd, ⟨hle, rfl⟩ | ⟨-, b, -, rfl⟩⟩ := bridge_cases hb
  · exact ⟨⟨d, hd, hle⟩, fun _ _ => rfl, .inl rfl⟩
  · have hl : St.get ⟨b :: s.out, (l, s.out.length + 1) :: s.dest⟩ l = some (s.out.length + 1) := by simp [St.get_cons]
    exact ⟨⟨_, hl, by simp⟩, fun l' h => by simp [St.get_cons, Ne.symm h], .inr ⟨rfl, hl⟩⟩

theorem bridge_get_none {s s' : St L} {l l' : L} (hb : bridge s l = .ok s') (hn : s'.get l' = none) : s.get l' = none := by
  obtain ⟨⟨d, hd, -⟩, hoth, -⟩ := bridge_dist hb
  by_cases h : l' = l
  · rw [h, hd] at hn; cases hn
  · rw [← hoth l' h]; exact hn

/-- Why false, true, false: a bridge for `tl` moves `fl`, which the first step brought within reach, one instruction away,
    so `fl` is looked at again; a second bridge for `fl` then stands directly in front of the bridge for `tl`, which so
    stays in reach. -/
theorem bridges_within_reach {s s1 s2 s3 : St L} {tl fl : L}
    (h1 : bridge s fl = .ok s1) (h2 : bridge s1 tl = .ok s2) (h3 : bridge s2 fl = .ok s3) :
    ∃ dt df, s3.get tl = some dt ∧ s3.get fl = some df ∧
      s3.out.length - dt ≤ 255 ∧ s3.out.length - df ≤ 255 := by
  obtain ⟨⟨df, hdf, hf⟩, hoth3, -⟩ := bridge_dist h3
  by_cases hlab : tl = fl
  · subst hlab; exact ⟨df, df, hdf, hdf, hf, hf⟩
  · obtain ⟨⟨dt, hdt, ht⟩, hoth2, hlen2⟩ := bridge_dist h2
    refine ⟨dt, df, by rw [hoth3 tl hlab, hdt], hdf, ?_, hf⟩
    obtain ⟨d2, hd2, ⟨-, rfl⟩ | ⟨hgt, x, -, rfl⟩⟩ := bridge_cases h3
    · exact ht
    · -- step 3 inserted: `fl`, within reach in `s1`, was out of reach in `s2`, so step 2 inserted, and `tl` is adjacent in `s2`
      obtain ⟨⟨d1, hd1, h1le⟩, -, -⟩ := bridge_dist h1
      rw [hoth2 fl (Ne.symm hlab), hd1] at hd2; cases hd2
      rcases hlen2 with h' | ⟨-, hadj⟩
      · omega
      · rw [hadj] at hdt; cases hdt; simp

/-- `bridges_within_reach`; `hle` is not needed -/
theorem three_bridges {s s1 s2 s3 : St L} {tl fl : L} (hle : DestLe s)
    (h1 : bridge s fl = .ok s1) (h2 : bridge s1 tl = .ok s2) (h3 : bridge s2 fl = .ok s3) :
    ∃ dt df, s3.get tl = some dt ∧ s3.get fl = some df ∧
      s3.out.length - dt ≤ 255 ∧ s3.out.length - df ≤ 255 :=
  bridges_within_reach h1 h2 h3

#print axioms three_bridges

theorem stepTok_lab (l : L) (s : St L) :
    stepTok (.lab l) s = .ok (if s.out.length = 0 then s else ⟨s.out, (l, s.out.length) :: s.dest⟩) := by
  simp only [stepTok]; split <;> rfl

theorem stepTok_error {t : Tok L} {s : St L} {e : Err} (h : stepTok t s = .error e) :
    ∃ c k tl fl, t = .ins (.jif c k tl fl) := by
  cases t with
  | lab l => rw [stepTok_lab] at h; cases h
  | ins i => cases i <;> first | cases h | exact ⟨_, _, _, _, rfl⟩

theorem asmT_cons {t : Tok L} {p : List (Tok L)} {s : St L} :
    asmT (t :: p) = .ok s ↔ ∃ s0, asmT p = .ok s0 ∧ stepTok t s0 = .ok s := by
  simp only [asmT]
  cases asmT p <;> simp

theorem asmT_cons_error {t : Tok L} {p : List (Tok L)} {e : Err} :
    asmT (t :: p) = .error e ↔ asmT p = .error e ∨ ∃ s, asmT p = .ok s ∧ stepTok t s = .error e := by
  simp only [asmT]
  cases asmT p <;> simp

theorem assemble_ok {p : List (Tok L)} {out : List Instr} :
    assemble p = .ok out ↔ ∃ s, asmT p = .ok s ∧ s.out = out := by
  unfold assemble
  cases asmT p <;> simp [Except.map]

/-- the instructions the resolver lays out as they are, with no bridge -/
def plain : LInstr L → Bool
  | .jif .. => false
  | _ => true

/-- in front of `s.out` the resolver may put `x` for `i`.  The flag is that of `s` in `Reach`: a plain instruction is laid out
    on a whole-token state only, a conditional jump also behind its bridges (`Emits.flag`). -/
inductive Emits : Bool → St L → LInstr L → Instr → Prop
  | ld (s off) : Emits true s (.ld off) (.ld off)
  | ret (s k) : Emits true s (.ret k) (.ret k)
  | ja (s n) : Emits true s (.ja n) (.ja n)
  | jif (b c k) {s tl fl dt df} : s.get tl = some dt → s.get fl = some df →
      s.out.length - dt ≤ 255 → s.out.length - df ≤ 255 →
      Emits b s (.jif c k tl fl) (.jif c k (s.out.length - dt) (s.out.length - df))

inductive Reach : Bool → List (Tok L) → St L → Prop
  | nil : Reach true [] ⟨[], []⟩
  | skip (l) {p s} : Reach true p s → s.out.length = 0 → Reach true (.lab l :: p) s
  | lab (l) {p s} : Reach true p s → s.out.length ≠ 0 → Reach true (.lab l :: p) ⟨s.out, (l, s.out.length) :: s.dest⟩
  | ins {b p s i x} : Reach b p s → Emits b s i x → Reach true (.ins i :: p) ⟨x :: s.out, s.dest⟩
  | bridged (l) {b p s d x} : Reach b p s → s.get l = some d → Bridge s.out d x →
      Reach false p ⟨x :: s.out, (l, s.out.length + 1) :: s.dest⟩

variable {b : Bool} {p : List (Tok L)} {s : St L}

theorem Reach.range (h : Reach b p s) : ∀ {l d}, s.get l = some d → 1 ≤ d ∧ d ≤ s.out.length := by
  induction h with
  | nil => nofun
  | skip _ _ _ ih => exact ih
  | lab l _ h0 ih =>
    intro l' d hg
    rcases St.get_cons_some hg with ⟨rfl, rfl⟩ | ⟨-, hg⟩
    · exact ⟨Nat.pos_of_ne_zero h0, Nat.le_refl _⟩
    · exact ih hg
  | ins _ _ ih => intro l d hg; have := ih hg; simp only [List.length_cons]; omega
  | bridged l _ _ _ ih =>
    intro l' d' hg
    rcases St.get_cons_some hg with ⟨rfl, rfl⟩ | ⟨-, hg⟩
    · simp
    · have := ih hg; simp only [List.length_cons]; omega

theorem Reach.destLe (h : Reach b p s) : DestLe s := fun _ _ hg => (h.range hg).2

theorem Reach.of_bridge {s' : St L} {l : L} (h : Reach b p s) (hb : bridge s l = .ok s') : ∃ b', Reach b' p s' := by
  obtain ⟨d, hd, ⟨-, rfl⟩ | ⟨-, x, hx, rfl⟩⟩ := bridge_cases hb
  · exact ⟨b, h⟩
  · exact ⟨false, h.bridged l hd hx⟩

theorem Reach.jif_cases (h : Reach true p s) (c : Cond) (k : Word) (tl fl : L) :
    (stepTok (.ins (.jif c k tl fl)) s = .error .backward ∧ (s.get tl = none ∨ s.get fl = none)) ∨
    ∃ b s3 dt df, Reach b p s3 ∧ s3.get tl = some dt ∧ s3.get fl = some df ∧
      s3.out.length - dt ≤ 255 ∧ s3.out.length - df ≤ 255 ∧
      stepTok (.ins (.jif c k tl fl)) s =
        if s3.out.length - dt = 0 ∧ s3.out.length - df = 0 then .error .useless
        else .ok ⟨.jif c k (s3.out.length - dt) (s3.out.length - df) :: s3.out, s3.dest⟩ := by
  cases h1 : bridge s fl with
  | error e => obtain ⟨rfl, hn⟩ := bridge_error h1; exact .inl ⟨by simp only [stepTok, h1], .inr hn⟩
  | ok s1 =>
    cases h2 : bridge s1 tl with
    | error e =>
      obtain ⟨rfl, hn⟩ := bridge_error h2
      exact .inl ⟨by simp only [stepTok, h1, h2], .inl (bridge_get_none h1 hn)⟩
    | ok s2 =>
      cases h3 : bridge s2 fl with
      | error e =>
        -- `fl` got a destination in the first step and keeps it
        obtain ⟨⟨d1, hd1, -⟩, -, -⟩ := bridge_dist h1
        rw [bridge_get_none h2 (bridge_error h3).2] at hd1; cases hd1
      | ok s3 =>
        obtain ⟨dt, df, hdt, hdf, ht, hf⟩ := bridges_within_reach h1 h2 h3
        obtain ⟨_, r1⟩ := h.of_bridge h1
        obtain ⟨_, r2⟩ := r1.of_bridge h2
        obtain ⟨b, r3⟩ := r2.of_bridge h3
        exact .inr ⟨b, s3, dt, df, r3, hdt, hdf, ht, hf, by simp only [stepTok, h1, h2, h3, hdt, hdf]⟩

theorem Reach.step {t : Tok L} {s' : St L} (h : Reach true p s) (hs : stepTok t s = .ok s') : Reach true (t :: p) s' := by
  cases t with
  | lab l =>
    rw [stepTok_lab] at hs; cases hs
    split
    · exact h.skip l ‹_›
    · exact h.lab l ‹_›
  | ins i =>
    cases i with
    | ld | ret | ja => cases hs; exact h.ins (by constructor)
    | jif c k tl fl =>
      rcases h.jif_cases c k tl fl with ⟨he, -⟩ | ⟨b, s3, dt, df, r3, hdt, hdf, ht, hf, he⟩ <;> rw [he] at hs
      · cases hs
      · split at hs <;> cases hs
        exact r3.ins (.jif b c k hdt hdf ht hf)

theorem asmT_reach : ∀ {p : List (Tok L)} {s : St L}, asmT p = .ok s → Reach true p s
  | [], _, h => by cases h; exact .nil
  | _ :: _, _, h => let ⟨_, h0, hs⟩ := asmT_cons.1 h; (asmT_reach h0).step hs

theorem assemble_reach {p : List (Tok L)} {out : List Instr} (h : assemble p = .ok out) :
    ∃ s, Reach true p s ∧ s.out = out :=
  let ⟨s, hs, ho⟩ := assemble_ok.1 h; ⟨s, asmT_reach hs, ho⟩
