import Seccomp.Proofs.Lemmas.AsmComplete
import Seccomp.Proofs.Lemmas.EntrySpec
/-!
# The label programs of the group compiler are well-formed: the resolver never fails on them

`WFT` and `JifOk` (together `Ok`, `AsmComplete`) speak of what follows a jump, so every level of the compiler
is proved in front of arbitrary code `rest`, as its run is in `EntrySpec`.  What a level needs of `rest` is the
same everywhere (`EntK`): it is well-formed, and `action` is placed ahead in it but not in front of its first
instruction.
-/

structure EntK (rest : List (Tok PL)) : Prop where
  ok : Ok rest
  act : LabelAhead PL.action rest
  actFront : PL.action ∉ frontLabs rest

theorem EntK.hasIns {rest : List (Tok PL)} (hK : EntK rest) : hasIns rest = true := hK.act.hasIns

theorem EntK.append {p rest : List (Tok PL)} (hK : EntK rest) (hp : PL.action ∉ labelsOf p) (hok : Ok (p ++ rest)) :
    EntK (p ++ rest) :=
  ⟨hok, hK.act.append_left p, fun h => (mem_frontLabs_append h).elim hp hK.actFront⟩

theorem EntK.lab {rest : List (Tok PL)} (hK : EntK rest) {l : PL} (hl : l ≠ .action) : EntK (.lab l :: rest) :=
  hK.append (p := [.lab l]) (by simpa [labelsOf] using hl.symm) (ok_lab l rest hK.ok)

theorem EntK.ld {rest : List (Tok PL)} (hK : EntK rest) (off : Nat) : EntK (.ins (.ld off) :: rest) :=
  hK.append (p := [.ins (.ld off)]) (by simp [labelsOf]) (ok_plain _ rest rfl hK.ok)

section levels
variable (ly : Layout)

theorem ok_hiJumps {vh : Word} {yes no : PL} {f : Nat → PL} (hy : ∀ j, yes ≠ f j) (hn : ∀ j, no ≠ f j)
    {i : LInstr PL} {T : List (Tok PL)} (hT : Ok (.ins i :: T)) (hyes : LabelAhead yes (.ins i :: T))
    (hno : LabelAhead no (.ins i :: T)) : ∀ ts j, Ok (hiJumps vh yes no f j ts ++ .ins i :: T)
  | [], _ => hT
  | t :: ts, j => by
    have hx : (∀ j, (if t.2 then yes else no) ≠ f j) ∧ LabelAhead (if t.2 then yes else no) (.ins i :: T) := by
      split <;> exact ⟨‹_›, ‹_›⟩
    -- the next test, or `.ins i`: an instruction
    have hfront : frontLabs (hiJumps vh yes no f (j+1) ts ++ .ins i :: T) = [] := by cases ts <;> rfl
    simp only [hiJumps, List.append_assoc]
    exact ok_jt t.1 vh _ (f j) _ (hx.1 j) (hx.2.append_left _) (by simp [hfront]) (ok_hiJumps hy hn hT hyes hno ts (j+1))

/-- the match label `m` is `nextArg` (placed here, behind the condition) or a label ahead in `rest` -/
theorem ok_condToks (e l c : Nat) (cnd : Cnd) (m : PL) (rest : List (Tok PL)) (hK : Ok rest)
    (hnm : LabelAhead (.noMatch e l) rest) (hm : LabelAhead m (.lab (.nextArg e l c) :: rest))
    (hmf : ∀ j, m ≠ .nextIns e l c j) (hmn : m ≠ .noMatch e l)
    (hfront : m ∉ frontLabs (.lab (.nextArg e l c) :: rest) ∨ PL.noMatch e l ∉ frontLabs rest) :
    Ok (condToks ly e l c cnd m ++ rest) := by
  have hnm' := hnm.cons (.lab (.nextArg e l c))
  have hT := ok_jif cnd.op.plan.2 (lo cnd.val) m (.noMatch e l) _ hmn hm hnm'
    (hfront.imp_right fun h h' => (List.mem_cons.1 h').elim (by simp) h) (ok_lab _ rest hK)
  rw [condToks_plan]
  simp only [List.cons_append, List.append_assoc, List.nil_append]
  exact ok_plain _ _ rfl (ok_hiJumps hmf (by simp) (ok_plain _ _ rfl hT) ((hm.cons _).cons _) ((hnm'.cons _).cons _) _ 0)

theorem frontLabs_condsToks (e l c : Nat) (cnd : Cnd) (more : List Cnd) (rest : List (Tok PL)) :
    frontLabs (condsToks ly e l c (cnd :: more) ++ rest) = [] := by
  cases more <;> simp [condsToks, condToks_plan, frontLabs]

theorem ok_condsToks (e l : Nat) : ∀ (conds : List Cnd) (c : Nat) (rest : List (Tok PL)), EntK rest →
    LabelAhead (.noMatch e l) rest → Ok (condsToks ly e l c conds ++ rest)
  | [], _, rest, hK, _ => hK.ok
  | [cnd], c, rest, hK, hnm =>
    ok_condToks ly e l c cnd .action rest hK.ok hnm (hK.act.cons _) (by simp) (by simp)
      (.inl fun h => (List.mem_cons.1 h).elim (by simp) hK.actFront)
  | cnd :: cnd2 :: tl, c, rest, hK, hnm => by
    have hnm' := hnm.append_left (condsToks ly e l (c+1) (cnd2 :: tl))
    simp only [condsToks, List.append_assoc]
    exact ok_condToks ly e l c cnd _ _ (ok_condsToks e l (cnd2 :: tl) (c+1) rest hK hnm) hnm'
      (labelAhead_lab_self _ hnm'.hasIns) (by simp) (by simp) (.inr (by simp [frontLabs_condsToks]))

theorem entK_listsToks (e : Nat) : ∀ (lists : List (List Cnd)) (l : Nat) (rest : List (Tok PL)), EntK rest →
    EntK (listsToks ly e l lists ++ rest)
  | [], _, rest, hK => hK
  | conds :: more, l, rest, hK => by
    have ih := entK_listsToks e more (l+1) rest hK
    have hK0 : EntK (.lab (.noMatch e l) :: (listsToks ly e (l+1) more ++ rest)) := ih.lab (by simp)
    simp only [listsToks, List.append_assoc, List.cons_append, List.nil_append]
    exact hK0.append (fun h => by simpa [inList] using (piece_condsToks ly e l _ _).labels _ h)
      (ok_condsToks ly e l conds 0 _ hK0 (labelAhead_lab_self _ ih.hasIns))

theorem entK_entryToks (e : Nat) (ent : Entry) (rest : List (Tok PL)) (hK : EntK rest) :
    EntK (entryToks ly e ent ++ rest) := by
  refine hK.append (fun h => by simpa [inEntry] using (piece_entryToks ly e ent).labels _ h) ?_
  cases ent with
  | uncond num => exact ok_jt .eq num .action (.afterNr e) rest (by simp) hK.act hK.actFront hK.ok
  | cond num lists =>
    have hKL := entK_listsToks ly e lists 0 _ ((hK.lab (l := .nextSys e) (by simp)).ld 0)
    simp only [entryToks, List.append_assoc, List.cons_append, List.nil_append]
    refine ok_jt .ne num (.nextSys e) (.afterNr e) _ (by simp)
      (((labelAhead_lab_self _ hK.hasIns).cons _).append_left _) (fun h => ?_) hKL.ok
    -- in front of the first instruction behind the jump there are only `noMatch` markers of empty lists
    rcases mem_frontLabs_append h with h | h
    · simpa using ((piece_listsToks ly e lists 0).labels _ h).2
    · cases h

theorem entK_entriesToks : ∀ (ents : List Entry) (e : Nat) (rest : List (Tok PL)), EntK rest →
    EntK (entriesToks ly e ents ++ rest)
  | [], _, rest, hK => hK
  | ent :: more, e, rest, hK => by
    simp only [entriesToks, List.append_assoc]
    exact entK_entryToks ly e ent _ (entK_entriesToks more (e+1) rest hK)

theorem ok_groupToks (ents : List Entry) (r : Word) : Ok (groupToks ly ents r) :=
  (entK_entriesToks ly ents 0 [.ins (.ja 1), .lab .action, .ins (.ret r)]
    ⟨⟨trivial, trivial⟩, ⟨1, by simp [findLab], rfl⟩, fun h => nomatch h⟩).ok

theorem assemble_group_total (ents : List Entry) (r : Word) : ∃ out, assemble (groupToks ly ents r) = .ok out :=
  assemble_total _ (ok_groupToks ly ents r).1 (ok_groupToks ly ents r).2

end levels
