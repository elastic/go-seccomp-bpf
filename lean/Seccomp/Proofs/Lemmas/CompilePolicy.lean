import Seccomp.Model.Spec
import Seccomp.Proofs.Lemmas.ToEntries
import Seccomp.Proofs.Lemmas.GroupCompiled
/-!
# `Policy.Assemble` at the level of names: what is needed for `C01.compile_correct`

`toEntries` (the model of `toSyscallsWithConditions`) produces, when it reports no problem, a list of
entries whose disjunction is exactly `Spec.groupMatches`: plain names, and for every name with
conditions the OR of its condition lists (same-name merging); this is `toEntries_spec`.  `Spec.decision_eq` is the
specification in the form `run_policyProg` produces.
-/

variable (A : ArchInfo) (ly : Layout) (nr : Word) (args : Nat → BitVec 64)

theorem Cnd.holds_eq_rel (c : Cnd) : c.holds args = Spec.rel c.op (args c.arg) c.val := by
  unfold Cnd.holds Spec.rel
  cases c.op <;> simp [BitVec.ult, BitVec.ule]

theorem toCnds_spec {conds : List Condition} (h : ∀ c ∈ conds, (opOfString c.op).isSome = true) :
    (toCnds conds).isEmpty = conds.isEmpty ∧
    (toCnds conds).all (·.holds args) = conds.all (Spec.condHolds · args) := by
  induction conds with
  | nil => simp [toCnds]
  | cons c rest ih =>
    obtain ⟨op, ho⟩ := Option.isSome_iff_exists.1 (h c List.mem_cons_self)
    simp only [toCnds, ho, List.isEmpty_cons, List.all_cons, true_and,
      (ih fun c' hc' => h c' (List.mem_cons_of_mem _ hc')).2]
    simp [Spec.condHolds, ho, Cnd.holds_eq_rel]

theorem listMatches_toCnds {conds : List Condition} (h : validateConds conds = []) :
    listMatches args (toCnds conds) = (!conds.isEmpty && conds.all (Spec.condHolds · args)) := by
  obtain ⟨h1, h2⟩ := toCnds_spec args (fun c hc => (validateConds_eq_nil_iff.1 h c hc).2)
  simp [listMatches, h1, h2]

theorem nameIs_none {name : String} (h : A.number name = none) : Spec.nameIs A nr name = false := by
  simp [Spec.nameIs, h]

theorem Spec.nameIs_eq (name : String) : Spec.nameIs A nr name = (A.number name == some nr) := by
  cases h : A.number name <;> simp [Spec.nameIs, h, Bool.beq_comm (a := nr)]

theorem any_matches_addList (num : Word) (cs : List Cnd) : ∀ es : List Entry, es.any (·.num == num) = true →
    (addList num cs es).any (·.matches nr args) = (es.any (·.matches nr args) || (nr == num && listMatches args cs))
  | [], h => by simp at h
  | e :: rest, h => by
    by_cases he : e.num = num
    · cases e with
      | uncond n =>
        obtain rfl : n = num := he
        cases hn : nr == n <;> simp [addList, Entry.num, Entry.matches, hn]
      | cond n ls =>
        obtain rfl : n = num := he
        -- the new list is the entry's last alternative on the left and the last disjunct of all on the right: with
        -- `Bool.or_comm` beside `Bool.or_assoc`, `simp` sorts the disjuncts of both sides
        cases hn : nr == n <;> simp [addList, Entry.num, Entry.matches, hn, Bool.or_comm, Bool.or_assoc]
    · simp [addList, he, any_matches_addList num cs rest (by simpa [he] using h), Bool.or_assoc]

theorem any_matches_foldl_addConds : ∀ (rs : List (Word × List Cnd)) (es : List Entry),
    (rs.foldl addConds es).any (·.matches nr args) =
      (es.any (·.matches nr args) || rs.any fun r => nr == r.1 && listMatches args r.2)
  | [], es => by simp
  | r :: rs, es => by
    rw [List.foldl_cons, any_matches_foldl_addConds rs, List.any_cons, ← Bool.or_assoc]
    congr 1
    unfold addConds
    split
    · exact any_matches_addList nr args _ _ es ‹_›
    · simp [Entry.matches]

theorem any_resolve : ∀ ncs : List NameConds, (∀ nc ∈ ncs, (nc.resolve A).isSome = true) →
    ((ncs.filterMap (NameConds.resolve A)).any fun r => nr == r.1 && listMatches args r.2) =
      ncs.any fun nc => Spec.nameIs A nr nc.name && !nc.conds.isEmpty && nc.conds.all (Spec.condHolds · args)
  | [], _ => rfl
  | nc :: rest, hc => by
    obtain ⟨⟨num, cs⟩, hr⟩ := Option.isSome_iff_exists.1 (hc nc List.mem_cons_self)
    obtain ⟨hn, hv, rfl⟩ := (NameConds.resolve_eq_some A).1 hr
    rw [List.filterMap_cons_some hr, List.any_cons, List.any_cons,
      any_resolve rest fun nc h => hc nc (List.mem_cons_of_mem _ h), listMatches_toCnds args hv]
    simp [Spec.nameIs, hn, Bool.and_assoc]

theorem toEntries_spec {g : Group} {ents : List Entry} (h : toEntries A g = .ok ents) :
    ents.any (·.matches nr args) = Spec.groupMatches A g nr args := by
  obtain ⟨-, -, hc, -, rfl⟩ := toEntries_ok_iff.1 h
  rw [any_matches_foldl_addConds, any_resolve A nr args _ hc, Spec.groupMatches]
  congr 1
  rw [List.any_map, List.any_filterMap]
  exact List.any_congr rfl fun n => by cases h : A.number n <;> simp [Spec.nameIs, Entry.matches, h]

theorem assembleGroup_spec (g : Group) (out : List Instr) (h : assembleGroup A ly g = .ok out) :
    InBounds out ∧ ∀ (w : Nat → Word) (nr : Word) (args : Nat → BitVec 64), Sees ly w nr args →
      run w out nr = if Spec.groupMatches A g nr args then .ret (enc g.action) else .exit nr := by
  obtain ⟨⟨hn, hw⟩, rfl⟩ | ⟨-, ents, hents, hasm⟩ := assembleGroup_eq_ok_iff.1 h
  · exact ⟨trivial, fun w nr args _ => by simp [Spec.groupMatches, hn, hw, run_nil]⟩
  · simp only [← toEntries_spec A _ _ hents]
    exact group_compiled ly ents (enc g.action) out hasm

theorem words_arg (e : Endian) (ev : Event) (i : Nat) :
    words e ev (16 + 8 * i) = (match e with | .little => lo (ev.args i) | .big => hi (ev.args i)) ∧
    words e ev (16 + 8 * i + 4) = (match e with | .little => hi (ev.args i) | .big => lo (ev.args i)) := by
  cases e <;> simp +arith [words, show (8 * i + 4) / 8 = i by omega]

theorem sees_words (e : Endian) (ev : Event) : Sees (Layout.ofEndian e) (words e ev) ev.nr ev.args := by
  cases e <;>
    exact ⟨rfl, fun i => by simp [Layout.ofEndian, words_arg], fun i => by simp [Layout.ofEndian, words_arg]⟩

theorem Spec.decision_eq (A : ArchInfo) (p : Policy) (ev : Event) : Spec.decision A p ev =
    if ev.arch ≠ A.id then enc p.default
    else if A.id = auditArchX86_64 ∧ ev.nr.toNat ≥ 0x40000000 then Spec.enosys
    else ((p.groups.find? fun g => Spec.groupMatches A g ev.nr ev.args).map (enc ·.action)).getD
      (enc p.default) := by
  unfold Spec.decision; cases List.find? _ p.groups <;> rfl
