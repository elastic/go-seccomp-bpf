import Seccomp.Model.Raw
/-!
# The raw encoding means the same to the kernel

One equation per kind of instruction: what `runRaw` does on `encode i`, in the words of `run`; and one
fact about the kernel's checker (C08: no truncated prefix is accepted).
-/

variable (w : Nat → Word) (rest : List RawInsn) (a : Word)

theorem runRaw_encode_ld (off : Nat) : runRaw w (encode (.ld off) :: rest) a = runRaw w rest (w off) := by
  rw [runRaw]; rfl

theorem runRaw_encode_ret (k : Word) : runRaw w (encode (.ret k) :: rest) a = .ret k := by
  rw [runRaw]; exact congrArg Result.ret (BitVec.ofNat_toNat ..)

theorem runRaw_encode_ja (n : Nat) : runRaw w (encode (.ja n) :: rest) a = runRaw w (rest.drop n) a := by
  rw [runRaw]; rfl

variable (jt jf : Nat) (k : Word)

theorem runRaw_jeq : runRaw w (⟨opJeqK, jt, jf, k.toNat⟩ :: rest) a =
    runRaw w (rest.drop (if a == k then jt else jf)) a := by
  rw [runRaw]; simp only [BitVec.ofNat_toNat, BitVec.setWidth_eq]; rfl
theorem runRaw_jgt : runRaw w (⟨opJgtK, jt, jf, k.toNat⟩ :: rest) a =
    runRaw w (rest.drop (if k.ult a then jt else jf)) a := by
  rw [runRaw]; simp only [BitVec.ofNat_toNat, BitVec.setWidth_eq]; rfl
theorem runRaw_jge : runRaw w (⟨opJgeK, jt, jf, k.toNat⟩ :: rest) a =
    runRaw w (rest.drop (if k.ule a then jt else jf)) a := by
  rw [runRaw]; simp only [BitVec.ofNat_toNat, BitVec.setWidth_eq]; rfl
theorem runRaw_jset : runRaw w (⟨opJsetK, jt, jf, k.toNat⟩ :: rest) a =
    runRaw w (rest.drop (if (a &&& k) != 0#32 then jt else jf)) a := by
  rw [runRaw]; simp only [BitVec.ofNat_toNat, BitVec.setWidth_eq]; rfl

/-- the four tests the kernel has (`jeq jgt jge jset`) decide the eight of `bpf.JumpTest`: for `≠ < ≤ ¬set`
    `encode` swaps the two skips, and the test it keeps is the complement -/
theorem runRaw_encode_jif (c : Cond) :
    runRaw w (encode (.jif c k jt jf) :: rest) a = runRaw w (rest.drop (if c.eval a k then jt else jf)) a := by
  have flip (b : Bool) : (if b = true then jf else jt) = if (!b) = true then jt else jf := by cases b <;> rfl
  cases c with
  | eq => exact runRaw_jeq ..
  | ne => exact (runRaw_jeq ..).trans (by rw [flip]; rfl)
  | gt => exact runRaw_jgt ..
  | lt => exact (runRaw_jge ..).trans (by rw [flip, BitVec.ule_eq_not_ult, Bool.not_not]; rfl)
  | ge => exact runRaw_jge ..
  | le => exact (runRaw_jgt ..).trans (by rw [flip, ← BitVec.ule_eq_not_ult]; rfl)
  | set => exact runRaw_jset ..
  | nset => exact (runRaw_jset ..).trans (by rw [flip, bne, Bool.not_not]; rfl)

theorem allInsnOk_far_ja (pre post : List RawInsn) (n : Nat) (h : post.length ≤ n) :
    allInsnOk (pre ++ encode (.ja n) :: post) = false := by
  induction pre with
  | nil =>
    have : insnOk (encode (.ja n)) post.length = decide (n < post.length) := rfl
    simp [allInsnOk, this, Nat.not_lt.2 h]
  | cons i pre ih => simp [allInsnOk, ih]
