import Seccomp.Model.Policy
/-!
# When `toEntries` reports no problem, and what it returns then

Each of the two loops of `toSyscallsWithConditions` is characterised once, for an arbitrary state of its
accumulators: it leaves the problem list empty exactly when the list was empty and every name it
visits is in order, and the entry list is then a closed form of the input (`toEntries_ok_iff`, at the
level of numbers, for any table).  Read at the level of names it says that the groups that pass are the
defect-free ones (`GroupValid.of_toEntries`, `toEntries_ok_of_valid`).  `toEntries_args`: every condition of the
entries is one a validated `NameConds` wrote (`cnds_toEntries`), so its argument index is at most 5, which is what
`Validity` needs of the loads.  The `*_eq_ok_iff` lemmas at the end say when the compilers above `toEntries` return
code, so that no proof has to unfold them.
-/

variable (A : ArchInfo)

theorem Entry.num_cond (n : Word) (ls) : (Entry.cond n ls).num = n := rfl
theorem Entry.num_uncond (n : Word) : (Entry.uncond n).num = n := rfl

theorem validateConds_eq_nil_iff {conds : List Condition} :
    validateConds conds = [] ↔ ∀ c ∈ conds, c.arg ≤ 5 ∧ (opOfString c.op).isSome = true := by
  induction conds with
  | nil => simp [validateConds]
  | cons c rest ih => simp [validateConds, ih, Nat.not_lt, Option.isSome_iff_ne_none, and_assoc]

theorem resolveNames_ok_iff : ∀ (names : List String) (es : List Entry) (ps : List Problem) (es' : List Entry),
    resolveNames A names es ps = (es', []) ↔
      ps = [] ∧ (∀ n ∈ names, (A.number n).isSome = true) ∧
      (∀ e ∈ es, e.num ∉ names.filterMap A.number) ∧ (names.filterMap A.number).Nodup ∧
      es' = es ++ (names.filterMap A.number).map .uncond
  | [], es, ps, es' => by
    simp only [resolveNames, Prod.mk.injEq, List.not_mem_nil, false_imp_iff, implies_true, List.filterMap_nil,
      not_false_eq_true, List.nodup_nil, List.map_nil, List.append_nil, true_and]
    exact ⟨fun h => ⟨h.2, h.1.symm⟩, fun h => ⟨h.2.symm, h.1⟩⟩
  | n :: rest, es, ps, es' => by
    have ih := resolveNames_ok_iff rest
    -- a step that reports a problem fails
    have fail : ∀ es q, q ≠ [] → ¬ resolveNames A rest es (ps ++ q) = (es', []) :=
      fun es q hq h => hq (List.append_eq_nil_iff.1 ((ih _ _ _).1 h).1).2
    simp only [resolveNames]
    cases hn : A.number n with
    | none =>
      exact iff_of_false (fail _ _ (by simp)) fun h => by simpa [hn] using h.2.1 n List.mem_cons_self
    | some k =>
      rw [List.filterMap_cons_some hn]
      generalize List.filterMap A.number rest = nums at ih
      dsimp only
      split
      · rename_i hk
        obtain ⟨e, he, hek⟩ := List.any_eq_true.1 hk
        exact iff_of_false (fail _ _ (by simp)) fun h => h.2.2.1 e he (by simp [← (beq_iff_eq.1 hek)])
      · rename_i hk
        have hk' : ∀ e ∈ es, ¬ e.num = k := by simpa using hk
        -- the statement for the tail, taken at the extended entry list, is the statement for the whole
        simp only [ih, List.forall_mem_append, List.forall_mem_singleton, Entry.num_uncond, List.forall_mem_cons, hn,
          Option.isSome_some, true_and, List.append_assoc, List.singleton_append, List.map_cons]
        simp only [List.mem_cons, not_or, forall_and, eq_true hk', true_and, List.nodup_cons, and_assoc]

def Entry.isUncond : Entry → Bool
  | .uncond _ => true
  | .cond _ _ => false

/-- `getSyscall` finds an entry for `num`, and it is unconditional -/
def plainAt (es : List Entry) (num : Word) : Bool := (es.find? (·.num == num)).any Entry.isUncond

theorem plainAt_cons (e : Entry) (es : List Entry) (num : Word) :
    plainAt (e :: es) num = if e.num == num then e.isUncond else plainAt es num := by
  cases h : e.num == num <;> simp [plainAt, h]

theorem plainAt_map_uncond (nums : List Word) (k : Word) : plainAt (nums.map .uncond) k = decide (k ∈ nums) := by
  induction nums with
  | nil => rfl
  | cons n nums ih =>
    rw [List.map_cons, plainAt_cons, ih, List.decide_mem_cons, Bool.beq_comm]
    show (if (k == n) = true then true else _) = _
    cases k == n <;> rfl

theorem plainAt_addList (num : Word) (cs : List Cnd) (k : Word) : ∀ es : List Entry,
    plainAt (addList num cs es) k = plainAt es k
  | [] => rfl
  | e :: es => by
    simp only [addList]
    split
    · cases e <;> simp only [plainAt_cons] <;> rfl
    · simp only [plainAt_cons, plainAt_addList num cs k es]

def NameConds.resolve (nc : NameConds) : Option (Word × List Cnd) :=
  match A.number nc.name with
  | some num => if validateConds nc.conds = [] then some (num, toCnds nc.conds) else none
  | none => none

theorem NameConds.resolve_eq_some {nc : NameConds} {num : Word} {cs : List Cnd} :
    nc.resolve A = some (num, cs) ↔
      A.number nc.name = some num ∧ validateConds nc.conds = [] ∧ toCnds nc.conds = cs := by
  unfold NameConds.resolve
  cases A.number nc.name <;> simp [and_left_comm]

theorem NameConds.resolve_isSome {nc : NameConds} :
    (nc.resolve A).isSome = true ↔
      (A.number nc.name).isSome = true ∧ ∀ c ∈ nc.conds, c.arg ≤ 5 ∧ (opOfString c.op).isSome = true := by
  simp only [Option.isSome_iff_exists, Prod.exists, NameConds.resolve_eq_some, validateConds_eq_nil_iff]
  simp

/-- what the second loop does to the entry list for a name that `NameConds.resolve` resolved to `r`, unless
    `plainAt es r.1` -/
def addConds (es : List Entry) (r : Word × List Cnd) : List Entry :=
  if es.any (·.num == r.1) then addList r.1 r.2 es else es ++ [.cond r.1 [r.2]]

/-- whether a name is reported as "conditional and unconditional" can be decided on the entry list the second loop
    started from -/
theorem plainAt_addConds (es : List Entry) (r : Word × List Cnd) (k : Word) :
    plainAt (addConds es r) k = plainAt es k := by
  unfold addConds
  split
  · exact plainAt_addList ..
  · -- the appended entry is conditional: found or not, it is not an unconditional one
    rw [plainAt, List.find?_append, plainAt]
    cases es.find? (·.num == k) with
    | some e => rfl
    | none => rw [Option.none_or, List.find?_singleton]; split <;> rfl

theorem resolveConds_ok_iff : ∀ (ncs : List NameConds) (es : List Entry) (ps : List Problem) (es' : List Entry),
    resolveConds A ncs es ps = (es', []) ↔
      ps = [] ∧ (∀ nc ∈ ncs, (nc.resolve A).isSome = true) ∧
      (∀ r ∈ ncs.filterMap (NameConds.resolve A), plainAt es r.1 = false) ∧
      es' = (ncs.filterMap (NameConds.resolve A)).foldl addConds es
  | [], es, ps, es' => by
    simp only [resolveConds, Prod.mk.injEq, List.not_mem_nil, false_imp_iff, implies_true, List.filterMap_nil,
      List.foldl_nil, true_and]
    exact ⟨fun h => ⟨h.2, h.1.symm⟩, fun h => ⟨h.2.symm, h.1⟩⟩
  | nc :: rest, es, ps, es' => by
    have ih := resolveConds_ok_iff rest
    have fail : ∀ q, q ≠ [] → ¬ resolveConds A rest es (ps ++ q) = (es', []) :=
      fun q hq h => hq (List.append_eq_nil_iff.1 ((ih _ _ _).1 h).1).2
    simp only [resolveConds, List.forall_mem_cons, List.filterMap_cons]
    cases hn : A.number nc.name with
    | none =>
      have hr : nc.resolve A = none := by simp [NameConds.resolve, hn]
      simp only [hr, Option.isSome_none, Bool.false_eq_true, false_and, and_false, iff_false]
      exact fail _ (by simp)
    | some num =>
      dsimp only
      by_cases hv : validateConds nc.conds = []
      · have hr : nc.resolve A = some (num, toCnds nc.conds) := by simp [NameConds.resolve, hn, hv]
        simp only [hr, Option.isSome_some, true_and, List.forall_mem_cons, List.foldl_cons, hv, List.isEmpty_nil,
          Bool.not_true, Bool.false_eq_true, if_false]
        -- in both successful cases the step is `addConds`, which `plainAt` does not see
        cases hf : es.find? (·.num == num) with
        | none =>
          have hany : es.any (·.num == num) = false := by simpa using hf
          have hstep : es ++ [Entry.cond num [toCnds nc.conds]] = addConds es (num, toCnds nc.conds) := by
            simp [addConds, hany]
          have hp : plainAt es num = false := by simp [plainAt, hf]
          simp only [hstep, ih, plainAt_addConds, hp, true_and]
        | some e =>
          have hany : es.any (·.num == num) = true :=
            List.any_eq_true.2 ⟨e, List.mem_of_find?_eq_some hf, by simpa using List.find?_some hf⟩
          cases e with
          | uncond k =>
            exact iff_of_false (fail _ (by simp)) fun h => by simpa [plainAt, hf, Entry.isUncond] using h.2.2.1.1
          | cond k ls =>
            have hstep : addList num (toCnds nc.conds) es = addConds es (num, toCnds nc.conds) := by
              simp [addConds, hany]
            have hp : plainAt es num = false := by simp [plainAt, hf, Entry.isUncond]
            simp only [hstep, ih, plainAt_addConds, hp, true_and]
      · have hr : nc.resolve A = none := by simp [NameConds.resolve, hn, hv]
        have hne : (!(validateConds nc.conds).isEmpty) = true := by simpa using hv
        simp only [hr, Option.isSome_none, Bool.false_eq_true, false_and, and_false, iff_false, if_pos hne]
        exact fail _ hv

variable {A} in
/-- No assumption on the table: two names with one number count as a duplicate. -/
theorem toEntries_ok_iff {g : Group} {ents : List Entry} :
    toEntries A g = .ok ents ↔
      (∀ n ∈ g.names, (A.number n).isSome = true) ∧ (g.names.filterMap A.number).Nodup ∧
      (∀ nc ∈ g.withConds, (nc.resolve A).isSome = true) ∧
      (∀ r ∈ g.withConds.filterMap (NameConds.resolve A), r.1 ∉ g.names.filterMap A.number) ∧
      ents = (g.withConds.filterMap (NameConds.resolve A)).foldl addConds
        ((g.names.filterMap A.number).map .uncond) := by
  have h1 := resolveNames_ok_iff A g.names [] []
  have h2 := resolveConds_ok_iff A g.withConds
  unfold toEntries
  generalize resolveNames A g.names [] [] = r1 at h1
  obtain ⟨es1, ps1⟩ := r1
  simp only
  generalize hr2 : resolveConds A g.withConds es1 ps1 = r2
  obtain ⟨es2, ps2⟩ := r2
  have hok : (if ps2.isEmpty = true then Except.ok es2 else Except.error ps2) = Except.ok ents ↔
      (es2, ps2) = (ents, []) := by cases ps2 <;> simp
  rw [hok, ← hr2, h2]
  constructor
  · rintro ⟨rfl, hc, hp, rfl⟩
    obtain ⟨-, hk, -, hnd, rfl⟩ := (h1 es1).1 rfl
    simp only [List.nil_append, plainAt_map_uncond, decide_eq_false_iff_not] at hp
    exact ⟨hk, hnd, hc, hp, rfl⟩
  · rintro ⟨hk, hnd, hc, hp, rfl⟩
    obtain ⟨rfl, rfl⟩ := Prod.mk.inj ((h1 _).2 ⟨rfl, hk, fun _ h => (List.not_mem_nil h).elim, hnd, rfl⟩)
    simp only [List.nil_append, plainAt_map_uncond, decide_eq_false_iff_not, true_and, and_true]
    exact ⟨hc, hp⟩

/-- A hypothesis wherever it stands, proved of no table: `A.number` ORs the mask into the table's number and cuts the
    result to 32 bits, so it follows from injectivity of the table (`C12.lookup_inverse`) only when the numbers are below
    `2^30` and the mask is 0 or the x32 bit `2^30` — as for the five tables; no theorem states it. -/
def NumInj : Prop := ∀ n1 n2 k, A.number n1 = some k → A.number n2 = some k → n1 = n2

/-- a group free of the defects the property lists -/
structure GroupValid (g : Group) : Prop where
  namesKnown : ∀ n ∈ g.names, (A.number n).isSome = true
  namesNodup : g.names.Nodup
  condNamesKnown : ∀ nc ∈ g.withConds, (A.number nc.name).isSome = true
  notMixed : ∀ nc ∈ g.withConds, nc.name ∉ g.names
  condsValid : ∀ nc ∈ g.withConds, ∀ c ∈ nc.conds, c.arg ≤ 5 ∧ (opOfString c.op).isSome = true

theorem GroupValid.of_empty {g : Group} (hn : g.names = []) (hw : g.withConds = []) : GroupValid A g :=
  ⟨by simp [hn], by simp [hn], by simp [hw], by simp [hw], by simp [hw]⟩

variable {A} in
theorem GroupValid.of_toEntries {g : Group} {ents : List Entry} (h : toEntries A g = .ok ents) : GroupValid A g := by
  obtain ⟨hk, hnd, hc, hmix, -⟩ := toEntries_ok_iff.1 h
  simp only [List.mem_filterMap, Prod.forall, NameConds.resolve_eq_some] at hmix
  simp only [NameConds.resolve_isSome] at hc
  refine ⟨hk, ?_, fun nc h => (hc nc h).1, ?_, fun nc h => (hc nc h).2⟩
  · refine (List.pairwise_filterMap.1 hnd).imp_of_mem fun {a b} ha _ hab e => ?_
    obtain ⟨k, hk⟩ := Option.isSome_iff_exists.1 (hk a ha)
    exact hab k hk k (e ▸ hk) rfl
  · intro nc hnc hmem
    obtain ⟨k, hk⟩ := Option.isSome_iff_exists.1 (hc nc hnc).1
    exact hmix k _ ⟨nc, hnc, hk, validateConds_eq_nil_iff.2 (hc nc hnc).2, rfl⟩ ⟨_, hmem, hk⟩

theorem toEntries_ok_of_valid (hinj : NumInj A) (g : Group) (hv : GroupValid A g) : ∃ ents, toEntries A g = .ok ents := by
  refine ⟨_, toEntries_ok_iff.2 ⟨hv.namesKnown, ?_, ?_, ?_, rfl⟩⟩
  · refine List.pairwise_filterMap.2 (hv.namesNodup.imp ?_)
    rintro a b hab k ha _ hb rfl
    exact hab (hinj a b k ha hb)
  · exact fun nc h => (NameConds.resolve_isSome A).2 ⟨hv.condNamesKnown nc h, hv.condsValid nc h⟩
  · simp only [List.mem_filterMap, Prod.forall, NameConds.resolve_eq_some]
    rintro k cs ⟨nc, hnc, hk, -⟩ ⟨n, hn, hk'⟩
    exact hv.notMixed nc hnc (hinj _ _ k hk hk' ▸ hn)

def Entry.cnds : Entry → List Cnd
  | .uncond _ => []
  | .cond _ lists => lists.flatten

@[simp] theorem Entry.cnds_cond (n : Word) (ls : List (List Cnd)) : (Entry.cond n ls).cnds = ls.flatten := rfl

theorem toCnds_eq_filterMap (conds : List Condition) :
    toCnds conds = conds.filterMap fun c => (opOfString c.op).map fun op => ⟨c.arg, op, c.val⟩ := by
  induction conds with
  | nil => rfl
  | cons c rest ih => cases h : opOfString c.op <;> simp [toCnds, h, ih]

theorem cnds_addList (num : Word) (cs : List Cnd) : ∀ es : List Entry,
    (addList num cs es).flatMap Entry.cnds ⊆ es.flatMap Entry.cnds ++ cs
  | [] => by simp [addList]
  | e :: es => by
    simp only [addList]
    split
    · cases e with
      | uncond n => exact List.subset_append_left _ _
      | cond n ls =>
        -- the new list stands in the middle on the left and last on the right: swap the last two disjuncts
        intro c; simpa using Or.imp_right Or.symm
    · simp only [List.flatMap_cons, List.append_assoc]
      exact List.append_subset.2
        ⟨List.subset_append_left _ _, (cnds_addList num cs es).trans (List.subset_append_right _ _)⟩

theorem cnds_foldl_addConds : ∀ (rs : List (Word × List Cnd)) (es : List Entry),
    (rs.foldl addConds es).flatMap Entry.cnds ⊆ es.flatMap Entry.cnds ++ rs.flatMap (·.2)
  | [], es => by simp
  | r :: rs, es => by
    have hstep : (addConds es r).flatMap Entry.cnds ⊆ es.flatMap Entry.cnds ++ r.2 := by
      unfold addConds
      split
      · exact cnds_addList ..
      · simp
    refine (cnds_foldl_addConds rs _).trans ?_
    simp only [List.flatMap_cons, ← List.append_assoc]
    exact List.append_subset.2 ⟨hstep.trans (List.subset_append_left _ _), List.subset_append_right _ _⟩

variable {A} in
theorem cnds_toEntries {g : Group} {ents : List Entry} (h : toEntries A g = .ok ents)
    {e : Entry} (he : e ∈ ents) {c : Cnd} (hc : c ∈ e.cnds) :
    ∃ nc ∈ g.withConds, validateConds nc.conds = [] ∧ c ∈ toCnds nc.conds := by
  obtain ⟨-, -, -, -, rfl⟩ := toEntries_ok_iff.1 h
  rcases List.mem_append.1 (cnds_foldl_addConds _ _ (List.mem_flatMap.2 ⟨e, he, hc⟩)) with h | h
  · obtain ⟨_, hm, hc'⟩ := List.mem_flatMap.1 h
    obtain ⟨k, -, rfl⟩ := List.mem_map.1 hm
    cases hc'
  · obtain ⟨⟨num, cs⟩, hr, hc'⟩ := List.mem_flatMap.1 h
    obtain ⟨nc, hnc, hr⟩ := List.mem_filterMap.1 hr
    obtain ⟨-, hv, rfl⟩ := (NameConds.resolve_eq_some A).1 hr
    exact ⟨nc, hnc, hv, hc'⟩

variable {A} in
theorem toEntries_args {g : Group} {ents : List Entry} (h : toEntries A g = .ok ents) :
    ∀ e ∈ ents, ∀ c ∈ e.cnds, c.arg ≤ 5 := by
  intro e he c hc
  obtain ⟨nc, -, hv, hc⟩ := cnds_toEntries h he hc
  rw [toCnds_eq_filterMap, List.mem_filterMap] at hc
  obtain ⟨x, hx, hxc⟩ := hc
  obtain ⟨op, -, rfl⟩ := Option.map_eq_some_iff.1 hxc
  exact (validateConds_eq_nil_iff.1 hv x hx).1

variable {A} in
theorem assembleGroup_eq_ok_iff {ly : Layout} {g : Group} {out : List Instr} :
    assembleGroup A ly g = .ok out ↔
      ((g.names = [] ∧ g.withConds = []) ∧ out = []) ∨
      (¬(g.names = [] ∧ g.withConds = []) ∧
        ∃ ents, toEntries A g = .ok ents ∧ assemble (groupToks ly ents (enc g.action)) = .ok out) := by
  unfold assembleGroup
  by_cases he : g.names = [] ∧ g.withConds = []
  · simp [he, eq_comm]
  · have hb : (g.names.isEmpty && g.withConds.isEmpty) = false := by simpa using he
    simp only [hb, Bool.false_eq_true, if_false, he, not_false_eq_true, true_and, false_and, false_or]
    cases toEntries A g with
    | error ps => simp
    | ok ents =>
      simp only [Except.ok.injEq, exists_eq_left']
      cases assemble (groupToks ly ents (enc g.action)) <;> simp

theorem assemblePolicy_eq_ok_iff {oA : Option ArchInfo} {ly : Layout} {p : Policy} {prog : List Instr} :
    assemblePolicy oA ly p = .ok prog ↔
      p.default ∈ namedActions ∧ p.groups ≠ [] ∧ ∃ A outs, oA = some A ∧
        assembleGroups A ly p.groups = .ok outs ∧
        prog = policyProg A.archI (outs.flatten ++ [.ret (enc p.default)]) := by
  unfold assemblePolicy
  by_cases hd : p.default ∈ namedActions
  · by_cases hg : p.groups = []
    · simp [hd, hg]
    · cases oA with
      | none => simp [hd, hg]
      | some A => cases ho : assembleGroups A ly p.groups <;> simp [hd, hg, ho, eq_comm (b := prog)]
  · simp [hd]

theorem assembleGroups_eq_mapM (ly : Layout) : ∀ gs, assembleGroups A ly gs = gs.mapM (assembleGroup A ly)
  | [] => rfl
  | g :: more => by
    rw [assembleGroups, assembleGroups_eq_mapM ly more, List.mapM_cons]
    cases assembleGroup A ly g
    · rfl
    · cases List.mapM (assembleGroup A ly) more <;> rfl
