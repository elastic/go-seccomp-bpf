import Seccomp.Proofs.Lemmas.AsmStep

/-!
# When the resolver cannot fail

On a label program with forward jumps only (`WFT`: every jump label is placed ahead, in front of an instruction) the
resolver never reports "backward": every such label has a destination when the jump is reached (`CInv`).  If moreover the
two labels of every conditional jump differ and are not both placed directly behind it (`JifOk`), it never reports
"useless jump": two different labels are both adjacent only if both stand in front of the first instruction (`FrontInv`,
`Reach.adjacent`), since a bridge for one pushes the other at least one instruction away.
-/

variable {L : Type} [DecidableEq L]

def hasIns : List (Tok L) → Bool
  | [] => false
  | .ins _ :: _ => true
  | .lab _ :: r => hasIns r

def LabelAhead (l : L) (rest : List (Tok L)) : Prop :=
  ∃ i, findLab l rest = some i ∧ hasIns (rest.drop i) = true

def WFT : List (Tok L) → Prop
  | [] => True
  | .ins (.jif _ _ tl fl) :: rest => LabelAhead tl rest ∧ LabelAhead fl rest ∧ WFT rest
  | _ :: rest => WFT rest

theorem WFT_tail (t : Tok L) (rest : List (Tok L)) (h : WFT (t :: rest)) : WFT rest :=
  match t, h with
  | .ins (.jif ..), h => h.2.2
  | .lab _, h | .ins (.ld _), h | .ins (.ret _), h | .ins (.ja _), h => h

/-- `nonempty` is there for the `skip` case of `Reach.cinv`: a marker is passed over only while nothing is laid out, and
    then no instruction and so no label is ahead -/
structure CInv (prog : List (Tok L)) (s : St L) : Prop where
  total : ∀ l, LabelAhead l prog → ∃ d, s.get l = some d
  nonempty : hasIns prog = true → s.out.length ≠ 0

omit [DecidableEq L] in
theorem hasIns_of_drop : ∀ (n : Nat) (p : List (Tok L)), hasIns (p.drop n) = true → hasIns p = true
  | 0, _, h => h
  | _+1, [], h => h
  | _+1, .ins _ :: _, _ => rfl
  | n+1, .lab _ :: p, h => hasIns_of_drop n p h

theorem LabelAhead.hasIns {l : L} {p : List (Tok L)} (h : LabelAhead l p) : hasIns p = true :=
  let ⟨i, _, hi⟩ := h; hasIns_of_drop i p hi

theorem labelAhead_cons_ne {l : L} {t : Tok L} {p : List (Tok L)} (h : t ≠ .lab l) :
    LabelAhead l (t :: p) ↔ LabelAhead l p := by
  have hf : findLab l (t :: p) = (findLab l p).map (· + 1) := by
    cases t with
    | lab l' => exact if_neg fun e : l' = l => h (e ▸ rfl)
    | ins _ => rfl
  simp only [LabelAhead, hf, Option.map_eq_some_iff]
  exact ⟨fun ⟨_, ⟨j, hj, e⟩, hi⟩ => ⟨j, hj, by subst e; exact hi⟩, fun ⟨j, hj, hi⟩ => ⟨j + 1, ⟨j, hj, rfl⟩, hi⟩⟩

theorem labelAhead_lab_self (l : L) {p : List (Tok L)} (h : hasIns p = true) : LabelAhead l (.lab l :: p) :=
  ⟨0, by simp [findLab], by simpa [hasIns] using h⟩

theorem LabelAhead.cons {l : L} {p : List (Tok L)} (h : LabelAhead l p) : ∀ t, LabelAhead l (t :: p)
  | .ins _ => (labelAhead_cons_ne (by simp)).2 h
  | .lab l' =>
    if e : l' = l then e ▸ labelAhead_lab_self l' h.hasIns else (labelAhead_cons_ne (by simpa using e)).2 h

theorem LabelAhead.append_left {l : L} {q : List (Tok L)} (h : LabelAhead l q) : ∀ p, LabelAhead l (p ++ q)
  | [] => h
  | t :: p => (h.append_left p).cons t

variable {b : Bool} {p : List (Tok L)} {s : St L}

theorem Reach.cinv (h : Reach b p s) : CInv p s := by
  induction h with
  | nil => exact ⟨fun l ⟨_, hi, _⟩ => (nomatch hi), nofun⟩
  | skip l _ h0 ih => exact ⟨fun l' hl => absurd h0 (ih.nonempty hl.hasIns), ih.nonempty⟩
  | lab l _ h0 ih =>
    refine ⟨fun l' hl => ?_, fun _ => h0⟩
    rw [St.get_cons]
    split
    · exact ⟨_, rfl⟩
    · exact ih.total l' ((labelAhead_cons_ne (by simpa)).1 hl)
  | ins _ _ ih => exact ⟨fun l hl => ih.total l ((labelAhead_cons_ne (by simp)).1 hl), fun _ => nofun⟩
  | bridged l _ _ _ ih =>
    refine ⟨fun l' hl => ?_, fun _ => nofun⟩
    rw [St.get_cons]
    split
    · exact ⟨_, rfl⟩
    · exact ih.total l' hl

theorem asmT_ne_backward : ∀ (p : List (Tok L)), WFT p → asmT p ≠ .error .backward
  | [], _ => nofun
  | t :: p, hwf => by
    intro he
    rcases asmT_cons_error.1 he with h | ⟨s, hs, he⟩
    · exact asmT_ne_backward p (WFT_tail t p hwf) h
    · obtain ⟨c, k, tl, fl, rfl⟩ := stepTok_error he
      have hr := asmT_reach hs
      obtain ⟨dt, ht⟩ := hr.cinv.total tl hwf.1
      obtain ⟨df, hf⟩ := hr.cinv.total fl hwf.2.1
      rcases hr.jif_cases c k tl fl with ⟨-, hn | hn⟩ | ⟨_, _, _, _, -, -, -, -, -, h'⟩
      · rw [ht] at hn; cases hn
      · rw [hf] at hn; cases hn
      · rw [h'] at he; split at he <;> cases he

theorem asm_complete : ∀ (prog : List (Tok L)), WFT prog →
    (∃ s, asmT prog = .ok s ∧ CInv prog s) ∨ asmT prog = .error .useless := by
  intro p hwf
  cases hs : asmT p with
  | ok s => exact .inl ⟨s, rfl, (asmT_reach hs).cinv⟩
  | error e =>
    cases e with
    | backward => exact absurd hs (asmT_ne_backward p hwf)
    | useless => exact .inr rfl

#print axioms asm_complete

def frontLabs : List (Tok L) → List L
  | [] => []
  | .lab l :: rest => l :: frontLabs rest
  | .ins _ :: _ => []

omit [DecidableEq L] in
theorem frontLabs_append_of_hasIns (p q : List (Tok L)) (h : hasIns p = true) : frontLabs (p ++ q) = frontLabs p := by
  induction p with
  | nil => simp [hasIns] at h
  | cons t rest ih =>
    cases t with
    | lab l => simp only [List.cons_append, frontLabs]; rw [ih (by simpa [hasIns] using h)]
    | ins i => rfl

omit [DecidableEq L] in
theorem mem_frontLabs_append {p q : List (Tok L)} {l : L} (h : l ∈ frontLabs (p ++ q)) :
    l ∈ labelsOf p ∨ l ∈ frontLabs q := by
  induction p with
  | nil => exact .inr h
  | cons t rest ih =>
    cases t with
    | lab l0 =>
      rcases List.mem_cons.1 h with h | h
      · exact .inl (List.mem_cons.2 (.inl h))
      · exact (ih h).imp_left (List.mem_cons_of_mem _)
    | ins i => cases h

omit [DecidableEq L] in
theorem frontLabs_subset_labelsOf (p : List (Tok L)) : ∀ l ∈ frontLabs p, l ∈ labelsOf p := fun l h =>
  (mem_frontLabs_append (q := []) (by rwa [List.append_nil])).elim id fun h => nomatch h

def JifOk : List (Tok L) → Prop
  | [] => True
  | .ins (.jif _ _ tl fl) :: rest => tl ≠ fl ∧ (tl ∉ frontLabs rest ∨ fl ∉ frontLabs rest) ∧ JifOk rest
  | _ :: rest => JifOk rest

omit [DecidableEq L] in
theorem JifOk_tail (t : Tok L) (rest : List (Tok L)) (h : JifOk (t :: rest)) : JifOk rest :=
  match t, h with
  | .ins (.jif ..), h => h.2.2
  | .lab _, h | .ins (.ld _), h | .ins (.ret _), h | .ins (.ja _), h => h

def FrontInv (prog : List (Tok L)) (s : St L) : Prop :=
  ∀ l d, s.get l = some d → d = s.out.length → l ∈ frontLabs prog

theorem Reach.frontInv : ∀ {p : List (Tok L)} {s : St L}, Reach true p s → FrontInv p s
  | _, _, .nil => fun _ _ hg => nomatch hg
  | _, _, .skip _ h _ => fun l d hg hd => List.mem_cons_of_mem _ (h.frontInv l d hg hd)
  | _, _, .lab l h _ => fun l' d hg hd => by
    rcases St.get_cons_some hg with ⟨rfl, rfl⟩ | ⟨-, hg⟩
    · exact List.mem_cons_self
    · exact List.mem_cons_of_mem _ (h.frontInv l' d hg hd)
  | _, _, .ins hr _ => fun l d hg hd => by
    -- an instruction was put in front: no destination is the whole of what is laid out
    have := (hr.range hg).2
    simp only [List.length_cons] at hd; omega

theorem Reach.adjacent {l1 l2 : L} (h : Reach b p s) (hne : l1 ≠ l2)
    (h1 : s.get l1 = some s.out.length) (h2 : s.get l2 = some s.out.length) :
    l1 ∈ frontLabs p ∧ l2 ∈ frontLabs p := by
  cases b with
  | true => exact ⟨h.frontInv l1 _ h1 rfl, h.frontInv l2 _ h2 rfl⟩
  | false =>
    cases h with
    | bridged l hr =>
      rcases St.get_cons_some h1 with ⟨rfl, -⟩ | ⟨-, h1⟩
      · rcases St.get_cons_some h2 with ⟨rfl, -⟩ | ⟨-, h2⟩
        · exact absurd rfl hne
        · exact absurd (hr.range h2).2 (Nat.not_succ_le_self _)
      · exact absurd (hr.range h1).2 (Nat.not_succ_le_self _)

theorem asmT_ne_useless : ∀ (p : List (Tok L)), JifOk p → asmT p ≠ .error .useless
  | [], _ => nofun
  | t :: p, hj => by
    intro he
    rcases asmT_cons_error.1 he with h | ⟨s, hs, he⟩
    · exact asmT_ne_useless p (JifOk_tail t p hj) h
    · obtain ⟨c, k, tl, fl, rfl⟩ := stepTok_error he
      obtain ⟨hne, hfront, -⟩ := hj
      rcases (asmT_reach hs).jif_cases c k tl fl with ⟨h', -⟩ | ⟨_, s3, dt, df, r3, hdt, hdf, -, -, h'⟩ <;> rw [h'] at he
      · cases he
      · split at he <;> cases he
        rename_i hu
        obtain ⟨ht, hf⟩ := r3.adjacent hne
          (hdt.trans (congrArg some (Nat.le_antisymm (r3.destLe _ _ hdt) (Nat.le_of_sub_eq_zero hu.1))))
          (hdf.trans (congrArg some (Nat.le_antisymm (r3.destLe _ _ hdf) (Nat.le_of_sub_eq_zero hu.2))))
        exact hfront.elim (· ht) (· hf)

theorem asm_total : ∀ (prog : List (Tok L)), WFT prog → JifOk prog →
    ∃ s, asmT prog = .ok s ∧ CInv prog s ∧ FrontInv prog s := by
  intro p hwf hj
  rcases asm_complete p hwf with ⟨s, hs, hc⟩ | he
  · exact ⟨s, hs, hc, (asmT_reach hs).frontInv⟩
  · exact absurd he (asmT_ne_useless p hj)

theorem assemble_total (prog : List (Tok L)) (hwf : WFT prog) (hj : JifOk prog) :
    ∃ out, assemble prog = .ok out := by
  obtain ⟨s, hs, -⟩ := asm_total prog hwf hj
  exact ⟨s.out, assemble_ok.2 ⟨s, hs, rfl⟩⟩

/-- the hypotheses of `assemble_total` -/
def Ok (p : List (Tok L)) : Prop := WFT p ∧ JifOk p

theorem ok_plain (i : LInstr L) (rest : List (Tok L)) (hp : plain i = true) (h : Ok rest) : Ok (.ins i :: rest) := by
  cases i with
  | jif c k tl fl => simp [plain] at hp
  | ld off => exact h
  | ret k => exact h
  | ja n => exact h

theorem ok_lab (l : L) (rest : List (Tok L)) (h : Ok rest) : Ok (.lab l :: rest) := h

theorem ok_jif (c : Cond) (k : Word) (tl fl : L) (rest : List (Tok L)) (hne : tl ≠ fl)
    (ht : LabelAhead tl rest) (hf : LabelAhead fl rest) (hfront : tl ∉ frontLabs rest ∨ fl ∉ frontLabs rest)
    (h : Ok rest) : Ok (.ins (.jif c k tl fl) :: rest) :=
  ⟨⟨ht, hf, h.1⟩, ⟨hne, hfront, h.2⟩⟩

/-- `JmpIfTrue`: the fall-through label is fresh and placed directly behind the jump -/
theorem ok_jt (c : Cond) (k : Word) (x f : L) (rest : List (Tok L)) (hne : x ≠ f)
    (hx : LabelAhead x rest) (hfront : x ∉ frontLabs rest) (h : Ok rest) :
    Ok (.ins (.jif c k x f) :: .lab f :: rest) :=
  ok_jif c k x f _ hne (hx.cons _) (labelAhead_lab_self f hx.hasIns)
    (.inl fun h => (List.mem_cons.1 h).elim hne hfront) (ok_lab f rest h)
