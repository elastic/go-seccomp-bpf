import Seccomp.Proofs.Lemmas.KernelLemmas
import Seccomp.Gen.Skeletons
import Seccomp.Model.LoaderSpec
/-!
# The regenerated loader against its specification

The only proofs of C09–C11 that look inside generated code: what the wrappers `Gen.seccomp`,
`Gen.setNoNewPrivs` make of the kernel entry each issues, and from that the agreement of `Gen.loadFilter`
and `Gen.supported` with `LoaderSpec`.  For `loadFilter` the kernel's answers stay opaque terms: no fact
about the kernel enters.
-/

/-- By cases on the kernel's answer, not on the shape of the `if` tree: an equivalent arrangement of the same
    tests in the source proves the same way. -/
theorem gen_seccomp_core (U : Unsupported) (op flags : Nat) (uargs : Option Prog) (w : World) :
    (Gen.seccomp U op flags uargs w).2 = (sysSeccomp op flags uargs w).2.2 ∧
    ((Gen.seccomp U op flags uargs w).1 = GoErr.nil ↔
      ((sysSeccomp op flags uargs w).2.1 = 0 ∧ ¬ (flags &&& 1 ≠ 0 ∧ (sysSeccomp op flags uargs w).1 ≠ 0))) ∧
    (Gen.seccomp U op flags uargs w).1.cls =
      (if (sysSeccomp op flags uargs w).2.1 ≠ 0 then ErrClass.errno (sysSeccomp op flags uargs w).2.1
       else if flags &&& 1 ≠ 0 ∧ (sysSeccomp op flags uargs w).1 ≠ 0 then .other else .nil) ∧
    ((sysSeccomp op flags uargs w).2.1 ≠ 0 →
      (Gen.seccomp U op flags uargs w).1 = GoErr.errno (sysSeccomp op flags uargs w).2.1) := by
  unfold Gen.seccomp
  generalize sysSeccomp op flags uargs w = r
  obtain ⟨r1, e, w1⟩ := r
  generalize flags &&& 1 = tsync
  by_cases he : e = 0 <;> by_cases hr : r1 = 0 <;> by_cases hf : tsync = 0 <;>
    simp [he, hr, hf, GoErr.cls]

theorem gen_setNoNewPrivs (U : Unsupported) (w : World) :
    Gen.setNoNewPrivs U w =
      (if (sysPrctl 38 1 0 0 0 w).2.1 ≠ 0 then GoErr.errno (sysPrctl 38 1 0 0 0 w).2.1 else GoErr.nil,
        (sysPrctl 38 1 0 0 0 w).2.2) := by
  unfold Gen.setNoNewPrivs Gen.prctl
  -- `copy(arg[:], args)` into the zeroed array
  have : copyInto (List.replicate 4 0) [1] = [1, 0, 0, 0] := by decide
  simp only [List.length_singleton, this, List.getD_cons_zero, List.getD_cons_succ]
  generalize sysPrctl 38 1 0 0 0 w = r
  obtain ⟨r1, e, w1⟩ := r
  by_cases he : e = 0 <;> simp [he]

theorem GoErr.cls_eq_nil {e : GoErr} : e.cls = .nil ↔ e = .nil := by
  cases e with
  | wrapped m i => simp only [GoErr.cls]; split <;> simp
  | _ => simp [GoErr.cls]

theorem GoErr.cls_wrapped {e : GoErr} (m : String) (he : e ≠ .nil) : (GoErr.wrapped m e).cls = e.cls := by
  cases e with
  | nil => exact absurd rfl he
  | errno n => rfl
  | wrapped m' i => simp only [GoErr.cls]; cases i.cls <;> rfl

/-- The two premises are what any arrangement of `LoadFilter`'s tests on the answer `e` of `seccomp()`
    evaluates to. -/
theorem report_cls {α : Type} {e : GoErr} {x : α} {t : GoErr × α}
    (hnil : e = .nil → t = (.nil, x)) (herr : e ≠ .nil → ∃ m, t = (.wrapped m e, x)) :
    (t.1.cls, t.2) = (e.cls, x) := by
  by_cases he : e = .nil
  · rw [hnil he, he]
  · obtain ⟨m, h⟩ := herr he
    rw [h, ← GoErr.cls_wrapped m he]

/-- **Translator tie, loader.**  For every behaviour `U` of untranslated statements the regenerated
    `LoadFilter` leaves the same world behind as the specification and returns an error of the same
    observable class. -/
theorem gen_loadFilter_eq_spec (U : Unsupported) (filter : Filter) (w : World) :
    ((Gen.loadFilter U filter w).1.cls, (Gen.loadFilter U filter w).2) = LoaderSpec.load filter w := by
  generalize hg : Gen.loadFilter U filter w = g
  unfold Gen.loadFilter at hg
  unfold LoaderSpec.load
  cases hpol : filter.policy with
  | assembleFails => rw [hpol] at hg; subst hg; rfl
  | encodeFails => rw [hpol] at hg; subst hg; rfl
  | prog p =>
    simp only [hpol, policyAssemble, bpfAssemble, sockFilter, gen_setNoNewPrivs, ne_eq, not_true_eq_false,
      if_false] at hg
    -- `LoaderSpec` names the constants that the generated code carries as literals
    simp only [PR_SET_NO_NEW_PRIVS, SECCOMP_SET_MODE_FILTER, FLAG_TSYNC]
    have call (w1 : World) := gen_seccomp_core U 1 filter.flag (mkFprog (.prog p)) w1
    have verdict {α : Type} (r : Nat × Nat × World) (x : α) :
        (if r.2.1 ≠ 0 then ErrClass.errno r.2.1 else if filter.flag &&& 1 ≠ 0 ∧ r.1 ≠ 0 then .other else .nil, x) =
        if r.2.1 ≠ 0 then (.errno r.2.1, x) else if filter.flag &&& 1 ≠ 0 ∧ r.1 ≠ 0 then (.other, x) else (.nil, x) := by
      rw [apply_ite (fun c => (c, x)), apply_ite (fun c => (c, x))]
    revert hg
    cases filter.noNewPrivs <;> intro hg
    · simp only [Bool.false_eq_true, ↓reduceIte, false_and] at hg ⊢
      rw [← verdict, ← (call w).2.2.1, ← (call w).1]
      generalize Gen.seccomp U 1 filter.flag (mkFprog (.prog p)) w = r at hg ⊢
      -- a failed call is reported in one of two wordings, ENOSYS (38) having its own; both wrap `r.1`.  (The same report
      -- again below: a shared `have` would have to spell out the source's tests on `r.1`.)
      exact report_cls (fun he => by simp [he] at hg; exact hg.symm)
        (fun he => by
          by_cases h38 : r.1 = .errno 38
          · simp [h38] at hg; rw [h38]; exact ⟨_, hg.symm⟩
          · simp [he, h38] at hg; exact ⟨_, hg.symm⟩)
    · simp only [↓reduceIte, true_and] at hg ⊢
      by_cases h0 : (sysPrctl 38 1 0 0 0 (lockOSThread w)).2.1 = 0
      · simp [h0] at hg
        rw [if_neg (fun h => h h0), ← verdict, ← (call _).2.2.1, ← (call _).1]
        generalize Gen.seccomp U 1 filter.flag (mkFprog (.prog p)) _ = r at hg ⊢
        exact report_cls (fun he => by simp [he] at hg; exact hg.symm)
          (fun he => by
          by_cases h38 : r.1 = .errno 38
          · simp [h38] at hg; rw [h38]; exact ⟨_, hg.symm⟩
          · simp [he, h38] at hg; exact ⟨_, hg.symm⟩)
      · simp [h0] at hg
        subst hg
        rw [if_pos h0]; rfl

theorem gen_supported_char (U : Unsupported) (w : World) :
    Gen.supported U w = (w.seccompAvailable, (sysSeccomp 0 1 none w).2.2) := by
  have hne : (sysSeccomp 0 1 none w).2.1 ≠ 0 := by
    rw [sysSeccomp_probe]; cases w.seccompAvailable <;> simp [EINVAL, Refusal.errno_ne_zero]
  have h4 := (gen_seccomp_core U 0 1 none w).2.2.2 hne
  have hw := (gen_seccomp_core U 0 1 none w).1
  unfold Gen.supported
  generalize Gen.seccomp U 0 1 none w = r at h4 hw
  obtain ⟨err, w2⟩ := r
  dsimp only at h4 hw
  subst h4 hw
  rw [sysSeccomp_probe]
  -- no refusal's errno is EINVAL, so the test `== EINVAL` decides availability
  have := w.refusal.errno_ne_einval
  cases w.seccompAvailable <;> simp_all [EINVAL]

theorem gen_supported_eq_spec (U : Unsupported) (w : World) :
    Gen.supported U w = LoaderSpec.supported w := by
  rw [gen_supported_char]
  unfold LoaderSpec.supported
  rw [show sysSeccomp SECCOMP_SET_MODE_STRICT 1 none w = sysSeccomp 0 1 none w from rfl, sysSeccomp_probe]
  have := w.refusal.errno_ne_einval
  cases w.seccompAvailable <;> simp_all [EINVAL]
