/-!
# General facts about lists that core does not have

A lookup in a Go map, kept as the list of its entries, and a `range` that stops at the first entry whose name matches
are both `l.find? (fun e => f e == k)` for a key function `f`.  Where `f` takes each value at most once on `l`, the search
is characterised by membership, hence does not depend on the order of `l`.  The `mapM` lemmas are for code compiled
piece by piece and laid out in a row.
-/

namespace List
variable {α β : Type _} [BEq β] [LawfulBEq β]

theorem find?_key_some (f : α → β) {l : List α} {k : β} {a : α} (h : l.find? (fun e => f e == k) = some a) :
    a ∈ l ∧ f a = k :=
  ⟨mem_of_find?_eq_some h, by simpa using find?_some h⟩

theorem find?_key_iff (f : α → β) {l : List α} (hf : ∀ x ∈ l, ∀ y ∈ l, f x = f y → x = y) (k : β) (a : α) :
    l.find? (fun e => f e == k) = some a ↔ a ∈ l ∧ f a = k := by
  refine ⟨find?_key_some f, ?_⟩
  rintro ⟨ha, rfl⟩
  cases h : l.find? (fun e => f e == f a) with
  | none => simpa using find?_eq_none.1 h a ha
  | some b => rw [hf b (find?_key_some f h).1 a ha (find?_key_some f h).2]

theorem find?_key_perm (f : α → β) {l₁ l₂ : List α} (h : l₁.Perm l₂)
    (hf : ∀ x ∈ l₂, ∀ y ∈ l₂, f x = f y → x = y) (k : β) :
    l₁.find? (fun e => f e == k) = l₂.find? (fun e => f e == k) := by
  have hf₁ : ∀ x ∈ l₁, ∀ y ∈ l₁, f x = f y → x = y :=
    fun x hx y hy => hf x (h.mem_iff.1 hx) y (h.mem_iff.1 hy)
  ext a
  rw [find?_key_iff f hf₁, find?_key_iff f hf, h.mem_iff]

omit [BEq β] [LawfulBEq β] in
theorem inj_on_of_nodup_map {f : α → β} {l : List α} (h : (l.map f).Nodup) : ∀ x ∈ l, ∀ y ∈ l, f x = f y → x = y :=
  have hp : l.Pairwise (fun a b => f a ≠ f b) := pairwise_map.1 h
  fun _ hx _ hy => Pairwise.forall_of_forall_of_flip (R := fun a b => f a = f b → a = b) (fun _ _ _ => rfl)
    (hp.imp fun hne e => absurd e hne) (hp.imp fun hne e => absurd e.symm hne) hx hy

theorem lookup_map_inj {γ δ : Type _} [BEq γ] [LawfulBEq γ] {g : β → γ} (hg : ∀ a b, g a = g b → a = b)
    (k : β) (l : List (β × δ)) : (l.map fun p => (g p.1, p.2)).lookup (g k) = l.lookup k := by
  induction l with
  | nil => rfl
  | cons p l ih =>
    have hk : (g k == g p.1) = (k == p.1) := by
      rw [Bool.eq_iff_iff, beq_iff_eq, beq_iff_eq]; exact ⟨hg _ _, congrArg g⟩
    obtain ⟨a, b⟩ := p
    simp only [map_cons, lookup_cons, hk, ih]

end List

theorem mapM_cons_eq_ok {α ε β : Type} {f : α → Except ε β} {g : α} {gs : List α} {outs : List β} :
    (g :: gs).mapM f = .ok outs ↔ ∃ out outs', f g = .ok out ∧ gs.mapM f = .ok outs' ∧ outs = out :: outs' := by
  rw [List.mapM_cons]
  cases f g <;> cases gs.mapM f <;> simp [bind, Except.bind, pure, Except.pure, eq_comm]

theorem mapM_ok_iff {α ε β : Type} (f : α → Except ε β) : ∀ gs : List α,
    (∃ outs, gs.mapM f = .ok outs) ↔ ∀ g ∈ gs, ∃ out, f g = .ok out
  | [] => by simp [pure, Except.pure]
  | g :: more => by
    simp only [mapM_cons_eq_ok, List.forall_mem_cons, ← mapM_ok_iff f more]
    exact ⟨fun ⟨_, out, outs', hg, hm, _⟩ => ⟨⟨out, hg⟩, outs', hm⟩,
      fun ⟨⟨out, hg⟩, outs', hm⟩ => ⟨_, out, outs', hg, hm, rfl⟩⟩

theorem mapM_flatten {α ε β : Type} {f : α → Except ε (List β)} {J : List β → Prop} (hnil : J [])
    (happ : ∀ p q, J p → J q → J (p ++ q)) : ∀ (gs : List α) (outs : List (List β)), gs.mapM f = .ok outs →
      (∀ g ∈ gs, ∀ out, f g = .ok out → J out) → J outs.flatten
  | [], outs, h, _ => by cases h; exact hnil
  | g :: more, outs, h, hf => by
    obtain ⟨out, outs', hg, hm, rfl⟩ := mapM_cons_eq_ok.1 h
    exact happ _ _ (hf g List.mem_cons_self out hg)
      (mapM_flatten hnil happ more outs' hm fun g' hg' => hf g' (List.mem_cons_of_mem _ hg'))
