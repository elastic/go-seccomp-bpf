import Seccomp.Proofs.Lemmas.CacheLemmas
/-!
# The repaired cache protocol, step by step

`store` touches the cache path in one step only, the rename; every other step `Keeps` it.  `store_stored` walks
`store` with that, `doObjdump_cases` says which of three things a run is (no cache path, a hit, `store`), and the
two theorems that C17 rests on (`doObjdump_honest`, `doObjdump_ok_complete`) read their conclusions off these.
-/
namespace CacheSpec
open Cache

theorem dropWhile_bne_of_mem (a : Nat) (l : List Nat) (h : a ∈ l) : ∃ rest, l.dropWhile (· != a) = a :: rest := by
  induction l with
  | nil => cases h
  | cons b t ih =>
    by_cases hb : b = a
    · exact ⟨t, by simp [hb]⟩
    · rw [List.dropWhile_cons_of_pos (by simpa using hb)]
      exact ih ((List.mem_cons.1 h).resolve_left (Ne.symm hb))

/-- `dirOf` and `baseOf` split a path at its last `/`.  The protocol's proofs do not go through it: `tmp_ne_dump` holds for
    every path, by lengths. -/
theorem dir_base_split (p : Str) (h : 47 ∈ p) : dirOf p ++ [47] ++ baseOf p = p := by
  obtain ⟨rest, hr⟩ := dropWhile_bne_of_mem 47 p.reverse (List.mem_reverse.2 h)
  have := congrArg List.reverse (List.takeWhile_append_dropWhile (p := (· != 47)) (l := p.reverse))
  simpa [dirOf, baseOf, hr] using this

theorem tmp_ne_dump (dump sfx : Str) : dirOf dump ++ [47] ++ (baseOf dump ++ bytes ".tmp") ++ sfx ≠ dump := by
  intro hc
  -- by length: `dirOf dump` and `baseOf dump` make up `dump` less at most the one byte that `drop 1` takes (`hl`);
  -- the `/` put back makes good for it, and ".tmp" adds four
  have hl : (dump.reverse.takeWhile (· != 47)).length + (dump.reverse.dropWhile (· != 47)).length = dump.length := by
    rw [← List.length_append, List.takeWhile_append_dropWhile, List.length_reverse]
  have := congrArg List.length hc
  rw [bytes_ofList] at this
  simp [dirOf, baseOf] at this
  omega

theorem lookup_dead (dump hash : Str) (w : World) (hd : w.alive = false) : lookup dump hash w = (false, w) := by
  unfold lookup
  simp [osOpen_dead _ hd, fileRead_dead _ hd, fileClose_dead _ hd, mkBuf]

theorem store_dead (binary dump hash : Str) (w : World) (hd : w.alive = false) :
    (store binary dump hash w).2 = w := by
  unfold store cleanup deferred
  simp [osCreateTemp_dead _ hd, writeString_dead _ hd, cmdRun_dead _ hd, flush_dead _ hd, fileClose_dead _ hd,
    osRename_dead _ hd, osRemove_dead _ hd, logPrintln_dead _ hd]

theorem doObjdump_dead (binary hash : Str) (w : World) (hd : w.alive = false) :
    (doObjdump binary hash w).2 = w := by
  unfold doObjdump
  simp [cachedDumpFile_dead _ hd, lookup_dead _ _ _ hd, store_dead _ _ _ _ hd]

theorem lookup_quiet (dump hash : Str) (w : World) : Quiet w (lookup dump hash w).2 := by
  unfold lookup
  dsimp only
  split
  · exact ((osOpen_quiet _ _).trans (fileRead_quiet _ _ _)).trans (fileClose_quiet _ _)
  · exact osOpen_quiet _ _

theorem lookup_hit (dump hash : Str) (w : World) (h : (lookup dump hash w).1 = true) :
    ∃ c, w.fs dump = some c ∧ c.take 64 = hash ∧ hash.length = 64 := by
  unfold lookup at h
  dsimp only at h
  split at h
  · rename_i ho
    obtain ⟨⟨h1, h2⟩, rfl⟩ := of_decide_eq_true h
    rw [fileRead_len] at h2
    obtain ⟨ha, c, hc, hr, hl⟩ := fileRead_full _ (mkBuf 64) _ (by decide) h1 h2
    rw [osOpen_ok _ _ ((osOpen_quiet _ _).mono ha) ho, (osOpen_quiet _ _).fs] at hc
    exact ⟨c, hc, hr.symm, by rw [hr, List.length_take]; exact Nat.min_eq_left hl⟩
  · cases h

theorem cleanup_frame (f : File) (w : World) : Frame w (cleanup f w) :=
  (fileClose_quiet _ _).toFrame.trans (osRemove_frame _ _)

theorem cleanup_keeps (f : File) (w : World) (p : Str) (h : p ≠ f.name) : Keeps p w (cleanup f w) :=
  ((fileClose_quiet f w).keeps p).trans (osRemove_keeps _ _ p h)

/-- What `store`, started in `w`, has done to the cache path by the time it returns `r`: nothing — and
    then, unless the process was killed, `r` is an error — or the path holds `c` and `r` names it. -/
def Stored (dump c : Str) (w : World) (r : (Str × GoErr) × World) : Prop :=
  (r.2.fs dump = w.fs dump ∧ (w.env.crashAt = none → w.alive = true → r.1.2 ≠ .nil)) ∨
  (r.2.fs dump = some c ∧ r.1 = (dump, .nil))

theorem Stored.exit {dump c : Str} {w x : World} {e : GoErr} {rest : (Str × GoErr) × World}
    (K : Keeps dump w x) (h : e = .nil → Stored dump c w rest) :
    Stored dump c w (if e ≠ .nil then (([], e), x) else rest) := by
  split
  · exact .inl ⟨K.fs, fun _ _ => ‹_›⟩
  · exact h (Decidable.not_not.1 ‹_›)

/-- one guarded step of `store`: if it failed `store` cleans up and returns the error, otherwise it goes on -/
theorem Stored.guard {dump c : Str} {w x y : World} {f : File} {e : GoErr} {rest : (Str × GoErr) × World}
    (K : Keeps dump w x) (S : Keeps dump x y) (hf : dump ≠ f.name)
    (h : Keeps dump w y → e = .nil → Stored dump c w rest) :
    Stored dump c w (if e ≠ .nil then (([], e), cleanup f y) else rest) :=
  Stored.exit ((K.trans S).trans (cleanup_keeps f y dump hf)) (h (K.trans S))

/-- `w.buf`: the model has one writer buffer for the run, so bytes pending when `store` begins go to the
    temporary file first; both users (`doObjdump_honest`, `doObjdump_ok_complete`) start from an empty buffer. -/
theorem store_stored (binary dump hash : Str) (w : World) :
    Stored dump (w.buf ++ (hash ++ bytes "\n") ++ w.env.listing) w (store binary dump hash w) := by
  by_cases ha : w.alive = true
  case neg => exact .inl ⟨by rw [store_dead _ _ _ _ (by simpa using ha)], fun _ h => absurd h ha⟩
  have hne := (tmp_ne_dump dump w.env.tmpSuffix).symm
  have T := osCreateTemp_keeps (dirOf dump) (baseOf dump ++ bytes ".tmp") w dump hne
  have T' := osCreateTemp_ok (dirOf dump) (baseOf dump ++ bytes ".tmp") w ha
  unfold store
  generalize dirOf dump ++ [47] ++ (baseOf dump ++ bytes ".tmp") ++ w.env.tmpSuffix = tmp at hne T'
  generalize osCreateTemp _ _ w = t at T T' ⊢
  refine Stored.exit T fun ht => ?_
  rw [(T' ht).1]
  -- `P`: what a process still alive has in the temporary file, or on its way there
  have P (_ : t.2.alive = true) : pend t.2 tmp = w.buf := (T' ht).2
  refine Stored.guard T (writeString_keeps _ _ _ dump hne) hne fun H hh => ?_
  have P := writeString_pend (newWriter ⟨tmp⟩) (hash ++ bytes "\n") _ _ P
  refine Stored.guard H (cmdRun_keeps _ _ dump (fun o ho => by cases ho; exact hne)) hne fun R hr => ?_
  have P := cmdRun_pend _ (newWriter ⟨tmp⟩) _ _ rfl hr P
  refine Stored.guard R (flush_keeps _ _ dump hne) hne fun F hfl => ?_
  have P := flush_complete (newWriter ⟨tmp⟩) _ _ hfl P
  refine Stored.guard F ((fileClose_quiet _ _).keeps dump) hne fun C hc => ?_
  have P := (fileClose_quiet ⟨tmp⟩ _).file P
  rw [H.env] at P
  generalize (fileClose _ _).2 = x at C P ⊢
  -- the rename: the only step that touches the cache path
  have M := osRename_target tmp dump x
  dsimp only
  split
  · refine .inl ⟨?_, fun _ _ => ‹_›⟩
    rw [(cleanup_keeps _ _ dump hne).fs, M, if_neg (fun h => ‹_ ≠ _› h.1), C.fs]
  · rw [Stored, (cleanup_keeps _ _ dump hne).fs, (logPrintln_keeps _ _ dump).fs, M]
    by_cases hal : x.alive = true
    · rw [if_pos ⟨Decidable.not_not.1 ‹_›, hal⟩]
      exact .inr ⟨P hal, rfl⟩
    · rw [if_neg (fun h => hal h.2)]
      exact .inl ⟨C.fs, fun hnc _ => absurd (C.nocrash hnc ha) hal⟩

theorem complete_is_honest (L : Str → Str) (hash : Str) (hh : HashOK hash) (h : Str) (hv : IsHash h)
    (ht : (complete L hash).take 64 = h) : complete L hash = complete L h := by
  unfold complete at ht
  rcases hh with hh | rfl
  · rw [List.append_assoc, List.take_append_of_le_length (Nat.le_of_eq hh.1.symm),
      List.take_of_length_le (Nat.le_of_eq hh.1)] at ht
    rw [← ht]
  · -- without a hash the file begins with the newline, which is no hex digit
    have : isHex 10 := hv.2 10 (by rw [← ht, bytes_ofList]; simp)
    exact absurd this (by decide)

theorem doObjdump_cases (binary hash : Str) (w : World) (ha : w.alive = true) :
    ((doObjdump binary hash w).1.2 ≠ .nil ∧ Keeps w.env.dump w (doObjdump binary hash w).2) ∨
    ((doObjdump binary hash w).1 = (w.env.dump, .nil) ∧ Keeps w.env.dump w (doObjdump binary hash w).2 ∧
      ∃ c, w.fs w.env.dump = some c ∧ c.take 64 = hash ∧ hash.length = 64) ∨
    ∃ x, Quiet w x ∧ doObjdump binary hash w = store binary w.env.dump hash x := by
  have D := cachedDumpFile_quiet binary w
  have D4 := cachedDumpFile_ok binary w ha
  unfold doObjdump
  dsimp only
  split
  · exact .inl ⟨‹_›, D.keeps _⟩
  rw [D4 (Decidable.not_not.1 ‹_›)]
  have Q := D.trans (lookup_quiet w.env.dump hash _)
  split
  · obtain ⟨c, hc⟩ := lookup_hit _ _ _ ‹_›
    exact .inr (.inl ⟨rfl, (Q.keeps _).trans (logPrintln_keeps _ _ _), c, D.fs ▸ hc⟩)
  · exact .inr (.inr ⟨_, Q, rfl⟩)

/-- **The invariant**, whatever the crash point, the I/O failures and the behaviour of the disassembler.
    (`hs`, here and in `doObjdump_ok_complete`, is not used: `tmp_ne_dump` holds for every path.) -/
theorem doObjdump_honest (L : Str → Str) (binary hash : Str) (w : World) (hb : w.buf = [])
    (hs : 47 ∈ w.env.dump) (hl : w.env.listing = L hash) (hh : HashOK hash)
    (hi : Honest L w.env.dump w.fs) : Honest L w.env.dump (doObjdump binary hash w).2.fs := by
  by_cases ha : w.alive = true
  case neg => rw [doObjdump_dead _ _ _ (by simpa using ha)]; exact hi
  rcases doObjdump_cases binary hash w ha with ⟨_, K⟩ | ⟨_, K, _⟩ | ⟨x, Q, e⟩
  · rw [Honest, K.fs]; exact hi
  · rw [Honest, K.fs]; exact hi
  · rw [e]
    rcases store_stored binary w.env.dump hash x with h | h
    · rw [Honest, h.1, Q.fs]; exact hi
    · intro c hc h' hv ht
      rw [h.1, Q.buf, hb, List.nil_append, Q.env, hl] at hc
      cases hc
      exact complete_is_honest L hash hh h' hv ht

/-- **A normal run**: not killed; I/O errors and a failing disassembler are allowed. -/
theorem doObjdump_ok_complete (L : Str → Str) (binary hash : Str) (w : World) (hb : w.buf = [])
    (ha : w.alive = true) (hnc : w.env.crashAt = none)
    (hs : 47 ∈ w.env.dump) (hl : w.env.listing = L hash) (hh : HashOK hash)
    (hi : Honest L w.env.dump w.fs) (hok : (doObjdump binary hash w).1.2 = .nil) :
    (doObjdump binary hash w).1.1 = w.env.dump ∧
    (doObjdump binary hash w).2.fs w.env.dump = some (complete L hash) := by
  rcases doObjdump_cases binary hash w ha with ⟨h, _⟩ | ⟨e, K, c, hc, ht, hlen⟩ | ⟨x, Q, e⟩
  · exact absurd hok h
  · rw [e, K.fs, hc]
    refine ⟨rfl, ?_⟩
    rcases hh with hh | hh
    · rw [hi c hc hash hh ht]
    · subst hh; cases hlen
  · rw [e] at hok ⊢
    rcases store_stored binary w.env.dump hash x with ⟨_, h⟩ | ⟨h1, h2⟩
    · exact absurd hok (h (Q.env ▸ hnc) (Q.nocrash hnc ha))
    · rw [h2, h1, Q.buf, hb, List.nil_append, Q.env, hl]
      exact ⟨rfl, rfl⟩

/-- `doObjdump` with `lookup` inlined, the way the source is written: the cache test is a proposition, and both
    ways of missing the cache continue with `store`.  `C17.tie` rewrites with it. -/
theorem doObjdump_inline (binary hash : Str) (w : World) : doObjdump binary hash w =
    (let d := cachedDumpFile binary w
     if d.1.2 ≠ .nil then (([], d.1.2), d.2) else
     let o := osOpen d.1.1 d.2
     if o.1.2 = .nil then
       let r := fileRead o.1.1 (mkBuf 64) o.2
       let c := fileClose o.1.1 r.2.2
       if (r.1.2 = .nil ∧ r.1.1 = r.2.1.length) ∧ hash = r.2.1 then
         ((d.1.1, .nil), logPrintln [bytes "Using cached objdump."] c.2)
       else store binary d.1.1 hash c.2
     else store binary d.1.1 hash o.2) := by
  unfold doObjdump lookup
  dsimp only
  refine ite_congr rfl (fun _ => rfl) (fun _ => ?_)
  by_cases h : (osOpen (cachedDumpFile binary w).1.1 (cachedDumpFile binary w).2).1.2 = .nil
  · simp only [h, if_true, decide_eq_true_eq]
  · simp only [h, if_false, Bool.false_eq_true]

end CacheSpec
