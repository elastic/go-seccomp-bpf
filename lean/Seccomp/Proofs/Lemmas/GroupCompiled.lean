import Seccomp.Proofs.Lemmas.EntrySpec
import Seccomp.Proofs.Lemmas.AsmSound
import Seccomp.Proofs.Lemmas.AsmClosed
import Seccomp.Proofs.Lemmas.ListLemmas
/-!
# From a group's label program to the whole filter, at instruction level

`group_compiled` takes `group_spec` through the label resolver.  `run_chain` lays groups compiled one by
one in a row before the default return, `prologue_spec` runs the architecture check and the x32 guard in
front of any such body; `run_policyProg` is the two together, for any way of compiling a group: `compileGroup`,
the compiler over resolved entries, here (`compile_correct`), `assembleGroup`, which starts from names, in `C01`.
-/

theorem Piece.ja {L : Type} {P : L → Prop} {q : List (Tok L)} : ∀ {p : List (Tok L)}, Piece P p →
    (JaOkT q → JaOkT (p ++ q)) ∧ (JaFit q → JaFit (p ++ q))
  | [], _ => ⟨id, id⟩
  | t :: _, h =>
    have ih := Piece.ja (q := q) fun t ht => h t (List.mem_cons_of_mem _ ht)
    match t, h t List.mem_cons_self with
    | .ins (.ja _), ht => ht.elim
    | .lab _, _ | .ins (.ld _), _ | .ins (.ret _), _ | .ins (.jif ..), _ => ih

variable (ly : Layout)

theorem group_compiled (ents : List Entry) (r : Word) (out : List Instr)
    (h : assemble (groupToks ly ents r) = .ok out) :
    InBounds out ∧ ∀ (w : Nat → Word) (nr : Word) (args : Nat → BitVec 64), Sees ly w nr args →
      run w out nr = if ents.any (·.matches nr args) then .ret r else .exit nr := by
  -- the one raw jump of a group, `ja 1`, stands behind the entries and skips one plain instruction
  have hja := (piece_entriesToks ly ents 0).ja (q := [.ins (.ja 1), .lab .action, .ins (.ret r)])
  refine ⟨assemble_inBounds _ _ (hja.2 (by simp [JaFit, countIns])) h, fun w nr args hs => ?_⟩
  rw [assemble_sound (groupToks ly ents r) _ (hja.1 (by simp [JaOkT, PlainPrefixT, plain])) h, group_spec w ly nr args hs]
#print axioms group_compiled

/-- The value is written with `Option.map`/`getD`: a `match` here and the `match` in a statement that uses this
    lemma would be two different matcher constants, which `rfl` does not identify. -/
theorem run_chain {α ε : Type} (w : Nat → Word) (nr d : Word) (f : α → Except ε (List Instr))
    (hit : α → Bool) (val : α → Word) : ∀ (gs : List α) (outs : List (List Instr)), gs.mapM f = .ok outs →
      (∀ g ∈ gs, ∀ out, f g = .ok out →
        InBounds out ∧ run w out nr = if hit g then .ret (val g) else .exit nr) →
      run w (outs.flatten ++ [.ret d]) nr = .ret (((gs.find? hit).map val).getD d)
  | [], outs, h, _ => by cases h; simp [run_ret]
  | g :: more, outs, h, hf => by
    obtain ⟨out, outs', hg, hm, rfl⟩ := mapM_cons_eq_ok.1 h
    obtain ⟨hb, hr⟩ := hf g List.mem_cons_self out hg
    rw [List.flatten_cons, List.append_assoc, run_append w _ _ _ hb, hr, List.find?_cons]
    cases hit g
    · exact run_chain w nr d f hit val more outs' hm fun g' hg' => hf g' (List.mem_cons_of_mem _ hg')
    · rfl

/-- `run_chain` for groups whose code is given (`f = pure`) -/
theorem groups_chain (w : Nat → Word) (nr : Word) (d : Word) :
    ∀ (gs : List (List Instr × Bool × Word)),
      (∀ g ∈ gs, InBounds g.1 ∧ run w g.1 nr = if g.2.1 then .ret g.2.2 else .exit nr) →
      run w ((gs.map (·.1)).flatten ++ [.ret d]) nr =
        match gs.find? (·.2.1) with
        | some g => .ret g.2.2
        | none => .ret d := fun gs h => by
  rw [run_chain (ε := Empty) w nr d (fun g => pure g.1) (·.2.1) (·.2.2) gs (gs.map (·.1)) List.mapM_pure
    fun g hg out ho => by cases ho; exact h g hg]
  cases gs.find? (·.2.1) <;> rfl
#print axioms groups_chain

theorem run_x32Filter (w : Nat → Word) (x86 : Bool) (body : List Instr) (a : Word) :
    run w (x32Filter x86 ++ body) a =
      if x86 = true ∧ x32Bit.ule a = true then .ret enosys else run w body a := by
  cases x86 <;> by_cases h : x32Bit.ule a = true <;> simp [x32Filter, run_jif, run_ret, Cond.eval, h]

theorem prologue_spec (w : Nat → Word) (ar : ArchI) (pre : List Instr) (d : Word) (a0 : Word) :
    run w (policyProg ar (pre ++ [.ret d])) a0 =
      if w 4 ≠ ar.id then .ret d
      else if ar.x86 = true ∧ x32Bit.ule (w 0) = true then .ret enosys
      else run w (pre ++ [.ret d]) (w 0) := by
  -- the architecture jump skips everything behind `ld 0`: it lands on the final return
  have hlast : (Instr.ld 0 :: (x32Filter ar.x86 ++ (pre ++ [Instr.ret d]))).drop
      (x32Filter ar.x86 ++ (pre ++ [Instr.ret d])).length = [Instr.ret d] := by
    rw [List.drop_length_cons (by simp)]; simp
  simp only [policyProg, List.cons_append, List.nil_append, run_ld]
  -- `-List.length_append`: `hlast` speaks of `(… ++ …).length`; with that length distributed over `++` it would
  -- rewrite neither form of the architecture jump
  by_cases harch : w 4 = ar.id <;> split <;>
    simp [-List.length_append, run_ld, run_jif, run_ja, run_ret, Cond.eval, harch, hlast, run_x32Filter]
#print axioms prologue_spec

theorem run_policyProg {α ε : Type} {ar : ArchI} {d : Word} {f : α → Except ε (List Instr)}
    {hit : α → Word → (Nat → BitVec 64) → Bool} {val : α → Word}
    (hf : ∀ g out, f g = .ok out → InBounds out ∧ ∀ w nr args, Sees ly w nr args →
      run w out nr = if hit g nr args then .ret (val g) else .exit nr)
    {gs : List α} {outs : List (List Instr)} (h : gs.mapM f = .ok outs)
    {w : Nat → Word} {nr : Word} {args : Nat → BitVec 64} (hs : Sees ly w nr args) (a0 : Word) :
    run w (policyProg ar (outs.flatten ++ [.ret d])) a0 =
      if w 4 ≠ ar.id then .ret d
      else if ar.x86 = true ∧ x32Bit.ule nr = true then .ret enosys
      else .ret (((gs.find? (hit · nr args)).map val).getD d) := by
  rw [prologue_spec, hs.nr, run_chain w nr d f (hit · nr args) val gs outs h
    fun g _ out hg => (hf g out hg).imp_right (· w nr args hs)]

theorem compileGroup_spec (g : GroupE) (out : List Instr) (h : compileGroup ly g = .ok out) :
    InBounds out ∧ ∀ (w : Nat → Word) (nr : Word) (args : Nat → BitVec 64), Sees ly w nr args →
      run w out nr = if g.matches nr args then .ret g.r else .exit nr := by
  unfold compileGroup at h
  split at h
  · rename_i he
    cases h
    exact ⟨trivial, fun w nr args _ => by simp [GroupE.matches, List.isEmpty_iff.1 he, run_nil]⟩
  · exact group_compiled ly g.ents g.r out h

theorem compileGroups_eq_mapM : ∀ gs, compileGroups ly gs = gs.mapM (compileGroup ly)
  | [] => rfl
  | g :: more => by
    rw [compileGroups, compileGroups_eq_mapM more, List.mapM_cons]
    cases compileGroup ly g
    · rfl
    · cases List.mapM (compileGroup ly) more <;> rfl

theorem compile_correct (ar : ArchI) (gs : List GroupE) (d : Word) (prog : List Instr)
    (h : compilePolicy ly ar gs d = .ok prog)
    (w : Nat → Word) (nr : Word) (args : Nat → BitVec 64) (hs : Sees ly w nr args) (a0 : Word) :
    run w prog a0 =
      if w 4 ≠ ar.id then .ret d
      else if ar.x86 = true ∧ x32Bit.ule nr = true then .ret enosys
      else match gs.find? (·.matches nr args) with
        | some g => .ret g.r
        | none => .ret d := by
  unfold compilePolicy at h
  split at h
  · cases h
  · rename_i outs ho
    cases h
    rw [run_policyProg ly (compileGroup_spec ly) (compileGroups_eq_mapM ly gs ▸ ho) hs]
    cases gs.find? (·.matches nr args) <;> rfl
#print axioms compile_correct
