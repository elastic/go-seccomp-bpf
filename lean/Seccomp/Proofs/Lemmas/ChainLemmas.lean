import Seccomp.Model.Chain
/-!
# The kernel's loop over a chain of filters keeps a least answer

The order is that of `actionOnly`: the action bits (`actionFull = 0xffff0000`) read as a signed number, so that
kill_process (`0x80000000`) is the least and `allow = 0x7fff0000` the greatest.  `runFrom_spec` is the one fact
about the loop.
-/

namespace Chain

theorem mask_mod (v : Word) : (v &&& actionFull).toNat % 65536 = 0 := by
  rw [BitVec.toNat_and, show 65536 = 2 ^ 16 from rfl, Nat.and_mod_two_pow,
    show actionFull.toNat % 2 ^ 16 = 0 from rfl, Nat.and_zero]

theorem actionOnly_retAllow : actionOnly retAllow = 0x7fff0000 := rfl

theorem actionOnly_le_allow (v : Word) : actionOnly v ≤ actionOnly retAllow := by
  have hm := mask_mod v
  have hlt := (v &&& actionFull).isLt
  rw [actionOnly_retAllow]
  unfold actionOnly
  rw [BitVec.toInt_eq_toNat_cond]
  split <;> omega

theorem mask_eq_allow_of_not_lt (v : Word) (h : ¬ actionOnly v < actionOnly retAllow) :
    v &&& actionFull = retAllow :=
  BitVec.eq_of_toInt_eq (Int.le_antisymm (actionOnly_le_allow v) (Int.not_lt.1 h))

theorem keep_le_left (r c : Word) : actionOnly (keep r c) ≤ actionOnly r := by
  unfold keep; split <;> omega

theorem keep_le_right (r c : Word) : actionOnly (keep r c) ≤ actionOnly c := by
  unfold keep; split <;> omega

theorem runFrom_spec (r : Word) (vs : List Word) :
    (∀ v ∈ r :: vs, actionOnly (runFrom r vs) ≤ actionOnly v) ∧
    (runFrom r vs = r ∨ runFrom r vs ∈ vs ∧ actionOnly (runFrom r vs) < actionOnly r) := by
  induction vs generalizing r with
  | nil => exact ⟨fun v hv => by rw [List.mem_singleton.1 hv, runFrom]; exact Int.le_refl _, .inl rfl⟩
  | cons c older ih =>
    obtain ⟨hle, hmem⟩ := ih (keep r c)
    have hk := hle _ List.mem_cons_self
    rw [runFrom]
    refine ⟨fun v hv => ?_, ?_⟩
    · rcases List.mem_cons.1 hv with rfl | hv
      · exact Int.le_trans hk (keep_le_left _ c)
      rcases List.mem_cons.1 hv with rfl | hv
      · exact Int.le_trans hk (keep_le_right r _)
      · exact hle v (List.mem_cons_of_mem _ hv)
    · by_cases hc : actionOnly c < actionOnly r
      · -- `c` replaces `r`; what is kept is `c` or something below it
        rw [keep, if_pos hc] at hmem hk ⊢
        refine .inr ⟨?_, Int.lt_of_le_of_lt hk hc⟩
        rcases hmem with h | h
        · rw [h]; exact List.mem_cons_self
        · exact List.mem_cons_of_mem _ h.1
      · rw [keep, if_neg hc] at hmem ⊢
        exact hmem.imp_right fun h => ⟨List.mem_cons_of_mem _ h.1, h.2⟩

theorem chain_le_of_mem {vs : List Word} {v : Word} (h : v ∈ vs) : actionOnly (chain vs) ≤ actionOnly v :=
  (runFrom_spec _ vs).1 v (List.mem_cons_of_mem _ h)

end Chain
