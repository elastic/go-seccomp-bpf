import Seccomp.Proofs.Lemmas.AsmStep

/-!
# What the resolver emits is closed, and made of the program's own loads and returns

Every jump of an assembled program lands inside it or exactly at its end (`InBounds`), so it can be followed by more
code, which is reached exactly when the program is left through its end (`run_append`).  Loads and returns of the output
are loads and returns of the label program (`FromProg`): a bridge is a copy of a return that is already there, or a `ja`.
-/

def InBounds : List Instr → Prop
  | [] => True
  | .jif _ _ jt jf :: rest => jt ≤ rest.length ∧ jf ≤ rest.length ∧ InBounds rest
  | .ja n :: rest => n ≤ rest.length ∧ InBounds rest
  | _ :: rest => InBounds rest

theorem InBounds_tail (i : Instr) (rest : List Instr) (h : InBounds (i :: rest)) : InBounds rest :=
  match i, h with
  | .jif .., h => h.2.2
  | .ja _, h => h.2
  | .ld _, h | .ret _, h => h

theorem InBounds_drop : ∀ (n : Nat) (p : List Instr), InBounds p → InBounds (p.drop n)
  | 0, p, h => by simpa using h
  | _+1, [], _ => by simp [InBounds]
  | n+1, i :: rest, h => by simpa using InBounds_drop n rest (InBounds_tail i rest h)

theorem run_append (w : Nat → Word) : ∀ (p q : List Instr) (a : Word), InBounds p →
    run w (p ++ q) a = (run w p a).andThen (run w q) := by
  intro p q a h
  fun_induction run w p a with
  | case1 a => simp [Result.andThen]
  | case2 off rest a ih => simp only [List.cons_append, run_ld]; exact ih h
  | case3 k rest a => simp [run_ret, Result.andThen]
  | case4 n rest a ih =>
    rw [List.cons_append, run_ja, List.drop_append_of_le_length h.1]
    exact ih (InBounds_drop n rest h.2)
  | case5 c k jt jf rest a ih =>
    rw [List.cons_append, run_jif, List.drop_append_of_le_length (by split; exact h.1; exact h.2.1)]
    exact ih (InBounds_drop _ rest h.2.2)

#print axioms run_append

variable {L : Type} [DecidableEq L] {b : Bool} {p : List (Tok L)} {s : St L}

def countIns : List (Tok L) → Nat
  | [] => 0
  | .lab _ :: rest => countIns rest
  | .ins _ :: rest => countIns rest + 1

def JaFit : List (Tok L) → Prop
  | [] => True
  | .ins (.ja n) :: rest => n ≤ countIns rest ∧ JaFit rest
  | _ :: rest => JaFit rest

omit [DecidableEq L] in
theorem JaFit_tail (t : Tok L) (rest : List (Tok L)) (h : JaFit (t :: rest)) : JaFit rest :=
  match t, h with
  | .ins (.ja _), h => h.2
  | .lab _, h | .ins (.ld _), h | .ins (.ret _), h | .ins (.jif ..), h => h

/-- The count rides along for the raw `ja n`: `JaFit` bounds `n` by the instructions of the label program behind it,
    `InBounds` wants it bounded by the output behind it, which has at least as many (bridges only add). -/
theorem Reach.inBounds (h : Reach b p s) (hja : JaFit p) : countIns p ≤ s.out.length ∧ InBounds s.out := by
  induction h with
  | nil => exact ⟨Nat.le_refl _, trivial⟩
  | skip _ _ _ ih | lab _ _ _ ih => exact ih hja
  | ins _ he ih =>
    obtain ⟨hc, hb⟩ := ih (JaFit_tail _ _ hja)
    refine ⟨Nat.succ_le_succ hc, ?_⟩
    cases he with
    | ld | ret => exact hb
    | ja => exact ⟨Nat.le_trans hja.1 hc, hb⟩
    | jif => exact ⟨Nat.sub_le _ _, Nat.sub_le _ _, hb⟩
  | bridged _ _ _ hx ih =>
    obtain ⟨hc, hb⟩ := ih hja
    refine ⟨Nat.le_succ_of_le hc, ?_⟩
    cases hx with
    | ret => exact hb
    | ja => exact ⟨Nat.sub_le _ _, hb⟩

theorem assemble_inBounds (prog : List (Tok L)) (out : List Instr) (hja : JaFit prog)
    (h : assemble prog = .ok out) : InBounds out := by
  obtain ⟨s, hs, rfl⟩ := assemble_reach h
  exact (hs.inBounds hja).2
#print axioms assemble_inBounds

def FromProg (prog : List (Tok L)) : Instr → Prop
  | .ld off => Tok.ins (.ld off) ∈ prog
  | .ret k => Tok.ins (.ret k) ∈ prog
  | _ => True

omit [DecidableEq L] in
theorem FromProg_mono {p q : List (Tok L)} (h : ∀ t ∈ p, t ∈ q) (x : Instr) (hx : FromProg p x) : FromProg q x := by
  cases x <;> simp only [FromProg] at hx ⊢ <;> first | exact h _ hx | trivial

theorem Reach.fromProg (h : Reach b p s) : ∀ x ∈ s.out, FromProg p x := by
  induction h with
  | nil => exact fun _ h => nomatch h
  | skip _ _ _ ih | lab _ _ _ ih => exact fun x hx => FromProg_mono (fun _ => List.mem_cons_of_mem _) x (ih x hx)
  | ins _ he ih =>
    intro x hx
    rcases List.mem_cons.1 hx with rfl | hx
    · cases he <;> first | exact List.mem_cons_self | trivial
    · exact FromProg_mono (fun _ => List.mem_cons_of_mem _) x (ih x hx)
  | bridged _ _ _ hx ih =>
    intro x hx'
    rcases List.mem_cons.1 hx' with rfl | hx'
    · cases hx with
      | ret hk => exact ih _ (List.mem_of_mem_drop (List.mem_of_mem_head? hk))
      | ja => trivial
    · exact ih x hx'

theorem assemble_fromProg (prog : List (Tok L)) (out : List Instr) (h : assemble prog = .ok out) :
    ∀ x ∈ out, FromProg prog x := by
  obtain ⟨s, hs, rfl⟩ := assemble_reach h
  exact hs.fromProg
