import Seccomp.Model.Text
import Seccomp.Proofs.Lemmas.ListLemmas
/-!
# Tables with distinct keys and names; `strings.ToLower` seen from ASCII

`KeysUnique` / `NamesUnique` are injectivity of the map key, resp. the name, on a table, in the form
`List.find?_key_iff` / `List.find?_key_perm` take.
-/

namespace Text

def KeysUnique (m : List (Nat × String)) : Prop := ∀ x ∈ m, ∀ y ∈ m, x.1 = y.1 → x = y

def NamesUnique (m : List (Nat × String)) : Prop := ∀ x ∈ m, ∀ y ∈ m, runes x.2 = runes y.2 → x = y

instance (m : List (Nat × String)) : Decidable (KeysUnique m) := by unfold KeysUnique; infer_instance
instance (m : List (Nat × String)) : Decidable (NamesUnique m) := by unfold NamesUnique; infer_instance

theorem actionStringWith_of_mem {m : List (Nat × String)} (hk : KeysUnique m) {e : Nat × String} (he : e ∈ m) :
    actionStringWith m e.1 = e.2 := by
  rw [actionStringWith, (List.find?_key_iff Prod.fst hk e.1 e).2 ⟨he, rfl⟩]

theorem lower_ascii {rs : List Nat} (h : ∀ r ∈ rs, r < 128) : lower rs = rs.map asciiLower := by
  unfold lower
  apply List.map_congr_left
  intro r hr
  have := h r hr
  simp [lowerRune, asciiLower, this]

theorem asciiLower_lt {r : Nat} (h : r < 128) : asciiLower r < 128 := by
  unfold asciiLower; split <;> omega

theorem lower_of_lowercase {rs : List Nat} (h : ∀ r ∈ rs, (97 ≤ r ∧ r ≤ 122) ∨ r = 95) : lower rs = rs := by
  refine (List.map_congr_left fun r hr => ?_).trans (List.map_id rs)
  have := h r hr
  simp [lowerRune, show r < 128 by omega, show ¬(65 ≤ r ∧ r ≤ 90) by omega]

/-- a range of the case table lies inside ASCII (never consulted: `lowerRune` answers `r < 128` itself), or both formulas of
    `lowerRange` keep all of it at or above 128, or it is one of the two code points that map into ASCII -/
theorem lowerRanges_above_ascii : ∀ cr ∈ Gen.lowerRanges,
    cr.hi < 128 ∨ (cr.ul = true ∧ 128 ≤ cr.lo) ∨ (cr.ul = false ∧ 128 + cr.sub ≤ cr.lo + cr.add) ∨
    (cr.lo = cr.hi ∧ (cr.lo = 0x130 ∨ cr.lo = 0x212A)) := by decide +kernel

end Text
