import Seccomp.Proofs.Lemmas.AsmSound
import Seccomp.Proofs.Lemmas.AsmClosed
import Seccomp.Proofs.Lemmas.CondSpec
import Seccomp.Proofs.Lemmas.ToEntries
import Seccomp.Proofs.Lemmas.GroupCompiled
import Seccomp.Model.Raw
/-!
# What the kernel's checker asks of a compiled policy (C05)

The label program of a group loads only the syscall number and the halves of arguments its conditions
name, and returns only the group's value (`group_out_shape`; stated for an arbitrary property `P` of load
offsets, so that no level has to say where a load came from); the resolver invents neither loads nor
returns.  `StrictOk` is what the checker asks of jumps and loads.  It is not kept by `++`, but "strict in
front of any non-empty strict code" is: `BodyOk` carries that, the return values and the 8-bit skips
through the groups; the x32 guard is a body of the same kind, and `policyProg_structure` puts the architecture
test in front.
-/

section shape
variable (ly : Layout)

/-- a token of the entries' code: a load has an offset in `P`, and there is no return (the only return of a group is the
    one `groupToks` appends, which is how `group_out_shape` knows the return value) -/
def TokLd (P : Nat → Prop) : Tok PL → Prop
  | .ins (.ld off) => P off
  | .ins (.ret _) => False
  | _ => True

variable (P : Nat → Prop)

theorem hiJumps_shape {vh : Word} {yes no : PL} {f : Nat → PL} : ∀ (ts : List (Cond × Bool)) (j : Nat),
    ∀ t ∈ hiJumps vh yes no f j ts, TokLd P t
  | [], _ => by simp [hiJumps]
  | _ :: ts, j => by
    simp only [hiJumps, jt, List.cons_append, List.nil_append, List.forall_mem_cons]
    exact ⟨trivial, trivial, hiJumps_shape ts (j+1)⟩

theorem condToks_shape (e l c : Nat) (cnd : Cnd) (m : PL) (hP : P (ly.hiOff cnd.arg) ∧ P (ly.loOff cnd.arg)) :
    ∀ t ∈ condToks ly e l c cnd m, TokLd P t := by
  simp only [condToks_plan, List.forall_mem_cons, List.forall_mem_append]
  exact ⟨hP.1, hiJumps_shape P _ _, hP.2, trivial, trivial, by simp⟩

theorem condsToks_shape (e l : Nat) : ∀ (conds : List Cnd) (c : Nat),
    (∀ cnd ∈ conds, P (ly.hiOff cnd.arg) ∧ P (ly.loOff cnd.arg)) → ∀ t ∈ condsToks ly e l c conds, TokLd P t
  | [], _, _ => by simp [condsToks]
  | [cnd], c, hP => condToks_shape ly P e l c cnd _ (hP cnd List.mem_cons_self)
  | cnd :: cnd2 :: tl, c, hP => by
    simp only [condsToks, List.forall_mem_append]
    exact ⟨condToks_shape ly P e l c cnd _ (hP cnd List.mem_cons_self),
      condsToks_shape e l (cnd2 :: tl) (c+1) fun x hx => hP x (List.mem_cons_of_mem _ hx)⟩

theorem listsToks_shape (e : Nat) : ∀ (lists : List (List Cnd)) (l : Nat),
    (∀ cnd ∈ lists.flatten, P (ly.hiOff cnd.arg) ∧ P (ly.loOff cnd.arg)) → ∀ t ∈ listsToks ly e l lists, TokLd P t
  | [], _, _ => by simp [listsToks]
  | conds :: rest, l, hP => by
    simp only [List.flatten_cons, List.forall_mem_append] at hP
    simp only [listsToks, List.forall_mem_append, List.forall_mem_singleton]
    exact ⟨⟨condsToks_shape ly P e l conds 0 hP.1, trivial⟩, listsToks_shape e rest (l+1) hP.2⟩

theorem entryToks_shape (e : Nat) (ent : Entry) (h0 : P 0)
    (hP : ∀ cnd ∈ ent.cnds, P (ly.hiOff cnd.arg) ∧ P (ly.loOff cnd.arg)) : ∀ t ∈ entryToks ly e ent, TokLd P t := by
  cases ent with
  | uncond num => simp [entryToks, jt, TokLd]
  | cond num lists =>
    simp only [entryToks, jt, List.forall_mem_append, List.forall_mem_cons]
    exact ⟨⟨⟨trivial, trivial, by simp⟩, listsToks_shape ly P e lists 0 hP⟩, h0, trivial, by simp⟩

theorem entriesToks_shape (h0 : P 0) : ∀ (ents : List Entry) (e : Nat),
    (∀ ent ∈ ents, ∀ cnd ∈ ent.cnds, P (ly.hiOff cnd.arg) ∧ P (ly.loOff cnd.arg)) →
    ∀ t ∈ entriesToks ly e ents, TokLd P t
  | [], _, _ => by simp [entriesToks]
  | ent :: more, e, hP => by
    simp only [entriesToks, List.forall_mem_append]
    exact ⟨entryToks_shape ly P e ent h0 (hP ent List.mem_cons_self),
      entriesToks_shape h0 more (e+1) fun x hx => hP x (List.mem_cons_of_mem _ hx)⟩

theorem group_out_shape (ents : List Entry) (r : Word) (out : List Instr)
    (h : assemble (groupToks ly ents r) = .ok out) (h0 : P 0)
    (hP : ∀ ent ∈ ents, ∀ cnd ∈ ent.cnds, P (ly.hiOff cnd.arg) ∧ P (ly.loOff cnd.arg)) :
    (∀ off, Instr.ld off ∈ out → P off) ∧ (∀ k, Instr.ret k ∈ out → k = r) := by
  have ho := assemble_fromProg _ out h
  have hs := entriesToks_shape ly P h0 ents 0 hP
  constructor
  · intro off hm
    exact hs _ (by simpa [groupToks, FromProg] using ho _ hm)
  · intro k hm
    have hk : Tok.ins (.ret k) ∈ entriesToks ly 0 ents ∨ k = r := by simpa [groupToks, FromProg] using ho _ hm
    exact hk.elim (fun h => (hs _ h).elim) id

end shape

def StrictOk : List Instr → Prop
  | [] => True
  | .ld off :: rest => (off % 4 = 0 ∧ off < 64) ∧ StrictOk rest
  | .ret _ :: rest => StrictOk rest
  | .ja n :: rest => n < rest.length ∧ StrictOk rest
  | .jif _ _ jt jf :: rest => jt < rest.length ∧ jf < rest.length ∧ StrictOk rest

theorem strictOk_append_of_inBounds : ∀ (p q : List Instr), InBounds p →
    (∀ off, Instr.ld off ∈ p → off % 4 = 0 ∧ off < 64) → q ≠ [] → StrictOk q → StrictOk (p ++ q)
  | [], q, _, _, _, hq => hq
  | i :: rest, q, hb, hl, hne, hq => by
    have hqlen : 0 < q.length := List.length_pos_iff.2 hne
    have ih := strictOk_append_of_inBounds rest q (InBounds_tail i rest hb)
      (fun off hm => hl off (List.mem_cons_of_mem _ hm)) hne hq
    cases i with
    | ld off => exact ⟨hl off List.mem_cons_self, ih⟩
    | ret k => exact ih
    | ja n =>
      show n < (rest ++ q).length ∧ _
      exact ⟨by have := hb.1; rw [List.length_append]; omega, ih⟩
    | jif c k jt jf =>
      show jt < (rest ++ q).length ∧ jf < (rest ++ q).length ∧ _
      exact ⟨by have := hb.1; rw [List.length_append]; omega, by have := hb.2.1; rw [List.length_append]; omega, ih⟩

theorem allInsnOk_of_strict : ∀ (p : List Instr), StrictOk p → allInsnOk (p.map encode) = true
  | [], _ => rfl
  | i :: rest, h => by
    simp only [List.map_cons, allInsnOk, List.length_map, Bool.and_eq_true]
    cases i with
    | ld off => exact ⟨by simp [insnOk, encode, opLdAbsW, h.1.1, h.1.2], allInsnOk_of_strict rest h.2⟩
    | ret k => exact ⟨by simp [insnOk, encode, opRetK, opLdAbsW], allInsnOk_of_strict rest h⟩
    | ja n => exact ⟨by simp [insnOk, encode, opJa, opRetK, opLdAbsW, h.1], allInsnOk_of_strict rest h.2⟩
    | jif c k jt jf =>
      refine ⟨?_, allInsnOk_of_strict rest h.2.2⟩
      cases c <;> simp [insnOk, encode, opJa, opRetK, opLdAbsW, opJeqK, opJgtK, opJgeK, opJsetK, h.1, h.2.1]

theorem fitsRaw_of_strict : ∀ (p : List Instr), StrictOk p → p.length ≤ 4096 → p.all fits = true →
    p.all Instr.fitsRaw = true
  | [], _, _, _ => rfl
  | i :: rest, hs, hl, hf => by
    simp only [List.length_cons] at hl
    simp only [List.all_cons, Bool.and_eq_true] at hf ⊢
    cases i with
    | ld off => exact ⟨by have := hs.1.2; simp only [Instr.fitsRaw, decide_eq_true_eq]; omega,
        fitsRaw_of_strict rest hs.2 (by omega) hf.2⟩
    | ret k => exact ⟨rfl, fitsRaw_of_strict rest hs (by omega) hf.2⟩
    | ja n => exact ⟨by have := hs.1; simp only [Instr.fitsRaw, decide_eq_true_eq]; omega,
        fitsRaw_of_strict rest hs.2 (by omega) hf.2⟩
    | jif c k jt jf => exact ⟨hf.1, fitsRaw_of_strict rest hs.2.2 (by omega) hf.2⟩

theorem kernelAccepts_of_strict {pre : List Instr} {k : Word} (hs : StrictOk (pre ++ [.ret k]))
    (hlen : (pre ++ [Instr.ret k]).length ≤ 4096) : kernelAccepts ((pre ++ [Instr.ret k]).map encode) = true := by
  simp only [kernelAccepts, allInsnOk_of_strict _ hs, List.length_map, hlen]
  simp [lastIsRet, encode]

def Layout.InRecord (ly : Layout) : Prop :=
  ∀ a ≤ 5, (ly.hiOff a % 4 = 0 ∧ ly.hiOff a < 64) ∧ (ly.loOff a % 4 = 0 ∧ ly.loOff a < 64)

theorem Layout.ofEndian_inRecord (e : Endian) : (Layout.ofEndian e).InRecord := fun a ha => by
  have h : ((16 + 8 * a) % 4 = 0 ∧ 16 + 8 * a < 64) ∧ ((16 + 8 * a + 4) % 4 = 0 ∧ 16 + 8 * a + 4 < 64) := by omega
  cases e
  · exact ⟨h.2, h.1⟩
  · exact h

def RetsIn (vals : List Word) (p : List Instr) : Prop := ∀ k, Instr.ret k ∈ p → k ∈ vals

/-- what validity needs of the code in front of the default return -/
structure BodyOk (vals : List Word) (p : List Instr) : Prop where
  strict : ∀ q, q ≠ [] → StrictOk q → StrictOk (p ++ q)
  rets : RetsIn vals p
  skips : p.all fits = true

theorem BodyOk.nil (vals : List Word) : BodyOk vals [] := ⟨fun _ _ h => h, fun _ h => (List.not_mem_nil h).elim, rfl⟩

theorem BodyOk.append {vals : List Word} {p q : List Instr} (hp : BodyOk vals p) (hq : BodyOk vals q) :
    BodyOk vals (p ++ q) :=
  ⟨fun r hne hr => List.append_assoc p q r ▸ hp.strict _ (by simp [hne]) (hq.strict r hne hr),
    fun k h => (List.mem_append.1 h).elim (hp.rets k) (hq.rets k), by simp [hp.skips, hq.skips]⟩

theorem BodyOk.mono {vals vals' : List Word} {p : List Instr} (hp : BodyOk vals p) (h : vals ⊆ vals') :
    BodyOk vals' p := ⟨hp.strict, fun k hk => h (hp.rets k hk), hp.skips⟩

theorem assembleGroup_bodyOk (A : ArchInfo) {ly : Layout} (hly : ly.InRecord) (g : Group) (out : List Instr)
    (h : assembleGroup A ly g = .ok out) : BodyOk [enc g.action] out := by
  obtain ⟨-, rfl⟩ | ⟨-, ents, hents, hasm⟩ := assembleGroup_eq_ok_iff.1 h
  · exact .nil _
  · obtain ⟨hld, hret⟩ := group_out_shape ly (fun off => off % 4 = 0 ∧ off < 64) ents (enc g.action) out hasm
      (by decide) fun ent hent cnd hcnd => hly cnd.arg (toEntries_args hents ent hent cnd hcnd)
    exact ⟨fun q => strictOk_append_of_inBounds out q (group_compiled _ ents _ out hasm).1 hld,
      fun k hk => by simp [hret k hk], assemble_skips_fit _ out hasm⟩

theorem assembleGroups_bodyOk (A : ArchInfo) {ly : Layout} (hly : ly.InRecord) (gs : List Group)
    (outs : List (List Instr)) (h : assembleGroups A ly gs = .ok outs) :
    BodyOk (gs.map fun g => enc g.action) outs.flatten :=
  mapM_flatten (.nil _) (fun _ _ => BodyOk.append) gs outs (assembleGroups_eq_mapM A _ gs ▸ h) fun g hg out ho =>
    (assembleGroup_bodyOk A hly g out ho).mono (by simpa using ⟨g, hg, rfl⟩)

theorem bodyOk_x32Filter : ∀ x86, BodyOk [enosys] (x32Filter x86)
  | false => .nil _
  | true => ⟨fun q hne hq => ⟨Nat.succ_pos _, Nat.succ_lt_succ (List.length_pos_iff.2 hne), hq⟩,
      by simp [RetsIn, x32Filter], rfl⟩

theorem policyProg_structure (ar : ArchI) {vals : List Word} {body : List Instr} (d : Word) (hb : BodyOk vals body) :
    StrictOk (policyProg ar (body ++ [.ret d])) ∧ (policyProg ar (body ++ [.ret d])).all fits = true ∧
    (∃ pre, policyProg ar (body ++ [.ret d]) = pre ++ [.ret d]) ∧
    RetsIn (d :: enosys :: vals) (policyProg ar (body ++ [.ret d])) := by
  -- behind `ld 0`: the x32 guard and the groups, a body, and the default return
  obtain ⟨hs, hr, hf⟩ := ((bodyOk_x32Filter ar.x86).mono (vals' := enosys :: vals) (by simp)).append
    (hb.mono (List.subset_cons_self _ _))
  have hs := hs [.ret d] (by simp) trivial
  have hr : RetsIn (d :: enosys :: vals) (x32Filter ar.x86 ++ body ++ [.ret d]) := fun k hk => by
    rcases List.mem_append.1 hk with h | h
    · exact List.mem_cons_of_mem _ (hr k h)
    · cases List.mem_singleton.1 h; exact List.mem_cons_self
  have hf : (x32Filter ar.x86 ++ body ++ [Instr.ret d]).all fits = true := by rw [List.all_append, hf]; rfl
  simp only [policyProg, ← List.append_assoc (x32Filter ar.x86)]
  generalize x32Filter ar.x86 ++ body = pre at *
  split
  · refine ⟨?_, ?_, ⟨_ :: _ :: _ :: pre, rfl⟩, fun k hk => hr k (by simpa using hk)⟩
    · simp only [List.cons_append, List.nil_append, StrictOk, List.length_cons]
      exact ⟨by decide, by omega, by omega, by decide, hs⟩
    · -- the short form of the architecture jump: its skip fits because of the `if jumpN ≤ 255` that `split` took
      simpa [-List.length_append, fits, hf] using ‹_ ≤ 255›
  · refine ⟨?_, ?_, ⟨_ :: _ :: _ :: _ :: pre, rfl⟩, fun k hk => hr k (by simpa using hk)⟩
    · simp only [List.cons_append, List.nil_append, StrictOk, List.length_cons]
      exact ⟨by decide, by omega, by omega, by omega, by decide, hs⟩
    · simp [fits, hf]
