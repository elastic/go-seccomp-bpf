import Seccomp.Model.Kernel
/-!
# The abstract kernel: what `prctl` and `seccomp` leave behind

Both entries work on `w.enter c` (the world past the schedule point, with the call logged) and leave
it, or it with one thread's record changed (`World.upd`), or, a filter attached, `attach flags id (w.enter c)`.
What C09–C11 say of the world after a load they say through the lemmas about `attach`.  `cloneThread`,
`exitThread` and the two lock operations are a single `if` or record update each and are used as defined.
-/

theorem schedStep_eq (w : World) :
    ∃ c s, schedStep w = { w with cur := c, sched := s } ∧ (w.cur ∈ w.live → c ∈ w.live) := by
  unfold schedStep
  by_cases hl : w.lockCount ≠ 0
  · rw [if_pos hl]; exact ⟨_, _, rfl, id⟩
  rw [if_neg hl]
  cases hs : w.sched with
  | nil => exact ⟨w.cur, w.sched, rfl, id⟩
  | cons t rest =>
    show ∃ c s, (if t ∈ w.live then _ else _) = _ ∧ _
    by_cases ht : t ∈ w.live
    · rw [if_pos ht]; exact ⟨_, _, rfl, fun _ => ht⟩
    · rw [if_neg ht]; exact ⟨_, _, rfl, id⟩

theorem schedStep_cur_live (w : World) (h : w.cur ∈ w.live) : (schedStep w).cur ∈ w.live := by
  obtain ⟨_, _, e, hl⟩ := schedStep_eq w; rw [e]; exact hl h

theorem schedStep_locked (w : World) (h : w.lockCount ≠ 0) : schedStep w = w := by
  unfold schedStep; rw [if_pos h]

def World.enter (w : World) (c : Tid → KCall) : World :=
  { schedStep w with log := c (schedStep w).cur :: (schedStep w).log }

namespace World

@[simp] theorem upd_thr_self (w : World) (t : Tid) (th : Thread) : (w.upd t th).thr t = th := by simp [World.upd]
theorem upd_thr_ne {w : World} {t t' : Tid} {th : Thread} (h : t' ≠ t) : (w.upd t th).thr t' = w.thr t' := by
  simp [World.upd, h]
@[simp] theorem upd_live (w : World) (t : Tid) (th : Thread) : (w.upd t th).live = w.live := rfl
@[simp] theorem upd_cur (w : World) (t : Tid) (th : Thread) : (w.upd t th).cur = w.cur := rfl
@[simp] theorem upd_lock (w : World) (t : Tid) (th : Thread) : (w.upd t th).lockCount = w.lockCount := rfl
@[simp] theorem upd_priv (w : World) (t : Tid) (th : Thread) : (w.upd t th).privileged = w.privileged := rfl
@[simp] theorem upd_log (w : World) (t : Tid) (th : Thread) : (w.upd t th).log = w.log := rfl

variable (w : World) (c : Tid → KCall)

theorem enter_eq :
    ∃ t s, w.enter c = { w with cur := t, sched := s, log := c t :: w.log } ∧ (w.cur ∈ w.live → t ∈ w.live) := by
  obtain ⟨t, s, h, hl⟩ := schedStep_eq w
  exact ⟨t, s, by rw [enter, h], hl⟩

@[simp] theorem enter_live : (w.enter c).live = w.live := by obtain ⟨_, _, h, _⟩ := w.enter_eq c; rw [h]
@[simp] theorem enter_thr : (w.enter c).thr = w.thr := by obtain ⟨_, _, h, _⟩ := w.enter_eq c; rw [h]
@[simp] theorem enter_lock : (w.enter c).lockCount = w.lockCount := by obtain ⟨_, _, h, _⟩ := w.enter_eq c; rw [h]
@[simp] theorem enter_priv : (w.enter c).privileged = w.privileged := by obtain ⟨_, _, h, _⟩ := w.enter_eq c; rw [h]
@[simp] theorem enter_avail : (w.enter c).seccompAvailable = w.seccompAvailable := by
  obtain ⟨_, _, h, _⟩ := w.enter_eq c; rw [h]
@[simp] theorem enter_refusal : (w.enter c).refusal = w.refusal := by obtain ⟨_, _, h, _⟩ := w.enter_eq c; rw [h]
@[simp] theorem enter_nnpAvail : (w.enter c).nnpAvailable = w.nnpAvailable := by
  obtain ⟨_, _, h, _⟩ := w.enter_eq c; rw [h]
@[simp] theorem enter_cur : (w.enter c).cur = (schedStep w).cur := rfl
theorem enter_log : (w.enter c).log = c (schedStep w).cur :: w.log := by
  obtain ⟨_, _, h, _⟩ := schedStep_eq w; rw [enter, h]
theorem enter_locked (h : w.lockCount ≠ 0) : w.enter c = { w with log := c w.cur :: w.log } := by
  rw [enter, schedStep_locked w h]

end World

theorem sysPrctl_eq (o a1 a2 a3 a4 : Nat) (w : World) :
    sysPrctl o a1 a2 a3 a4 w =
      if o = PR_SET_NO_NEW_PRIVS then
        if a1 = 1 ∧ a2 = 0 ∧ a3 = 0 ∧ a4 = 0 ∧ w.nnpAvailable = true then
          (0, 0, (w.enter (.prctl · o a1 a2 a3 a4)).upd (schedStep w).cur { w.thr (schedStep w).cur with nnp := true })
        else (0, EINVAL, w.enter (.prctl · o a1 a2 a3 a4))
      else (0, EINVAL, w.enter (.prctl · o a1 a2 a3 a4)) := by
  rw [← w.enter_nnpAvail (.prctl · o a1 a2 a3 a4), ← w.enter_thr (.prctl · o a1 a2 a3 a4)]
  rfl

theorem Refusal.errno_ne_zero (r : Refusal) : r.errno ≠ 0 := by cases r <;> decide
theorem Refusal.errno_ne_einval (r : Refusal) : r.errno ≠ EINVAL := by cases r <;> decide

/-- seccomp(2): what it takes for `seccomp(SECCOMP_SET_MODE_FILTER, flags, &p)`, entered in world `v`,
    to attach `p` -/
structure Admits (flags : Nat) (p : Prog) (v : World) : Prop where
  avail : v.seccompAvailable = true
  known : flags &&& knownFlags = flags
  combo : ¬ (flags &&& FLAG_TSYNC ≠ 0 ∧ flags &&& FLAG_NEW_LISTENER ≠ 0)
  len : p.len ≠ 0 ∧ p.len ≤ BPF_MAXINSNS
  priv : (v.thr v.cur).nnp = true ∨ v.privileged = true
  ok : p.ok = true
  sync : flags &&& FLAG_TSYNC ≠ 0 → ∀ t ∈ v.live, t ≠ v.cur →
    (v.thr t).filters.isSuffixOf (v.thr v.cur).filters = true

/-- seccomp(2) attaching filter `id`: the threads in scope (every live one with thread-sync, else the caller)
    get it on top of the caller's chain, and the caller's no_new_privs joined to theirs -/
def attach (flags : Nat) (id : FilterId) (v : World) : World :=
  { v with thr := fun t =>
      if (if flags &&& FLAG_TSYNC ≠ 0 then t ∈ v.live else t = v.cur) then
        { v.thr t with filters := id :: (v.thr v.cur).filters, nnp := (v.thr t).nnp || (v.thr v.cur).nnp }
      else v.thr t }

theorem Admits.lock {flags : Nat} {p : Prog} {v : World} (n : Nat) :
    Admits flags p { v with lockCount := n } ↔ Admits flags p v := by
  constructor <;> exact fun a => ⟨a.avail, a.known, a.combo, a.len, a.priv, a.ok, a.sync⟩

@[simp] theorem attach_live (flags : Nat) (id : FilterId) (v : World) : (attach flags id v).live = v.live := rfl
@[simp] theorem attach_cur (flags : Nat) (id : FilterId) (v : World) : (attach flags id v).cur = v.cur := rfl

theorem attach_thr (flags : Nat) (id : FilterId) (v : World) (t : Tid) :
    (attach flags id v).thr t = v.thr t ∨
    (attach flags id v).thr t =
      { v.thr t with filters := id :: (v.thr v.cur).filters, nnp := (v.thr t).nnp || (v.thr v.cur).nnp } := by
  by_cases h : if flags &&& FLAG_TSYNC ≠ 0 then t ∈ v.live else t = v.cur
  · exact .inr (if_pos h)
  · exact .inl (if_neg h)

theorem attach_filters_all {flags : Nat} (hts : flags &&& FLAG_TSYNC ≠ 0) (id : FilterId) {v : World} {t : Tid}
    (ht : t ∈ v.live) : ((attach flags id v).thr t).filters = id :: (v.thr v.cur).filters :=
  congrArg (·.filters) (if_pos (by rw [if_pos hts]; exact ht) : (attach flags id v).thr t = _)

theorem attach_filters_cur (flags : Nat) (id : FilterId) {v : World} (h : v.cur ∈ v.live) :
    ((attach flags id v).thr v.cur).filters = id :: (v.thr v.cur).filters :=
  congrArg (·.filters) (if_pos (by split <;> trivial) : (attach flags id v).thr v.cur = _)

theorem attach_eq_upd {flags : Nat} (hts : flags &&& FLAG_TSYNC = 0) (id : FilterId) (v : World) :
    attach flags id v = v.upd v.cur { v.thr v.cur with filters := id :: (v.thr v.cur).filters } := by
  unfold attach World.upd
  congr 1; funext t
  simp only [if_neg (fun h => h hts : ¬ flags &&& FLAG_TSYNC ≠ 0)]
  by_cases ht : t = v.cur
  · rw [if_pos ht, if_pos ht, ht, Bool.or_self]
  · rw [if_neg ht, if_neg ht]

theorem attach_thr_ne {flags : Nat} (hts : flags &&& FLAG_TSYNC = 0) (id : FilterId) (v : World) {t : Tid}
    (ht : t ≠ v.cur) : (attach flags id v).thr t = v.thr t := by
  rw [attach_eq_upd hts]; exact World.upd_thr_ne ht

inductive FilterOutcome (flags : Nat) (uargs : Option Prog) (v : World) : Nat × Nat × World → Prop
  /-- errno 0; the return value is 0 unless a listener was asked for (then it is its descriptor) -/
  | attached (p : Prog) (hp : uargs = some p) (h : Admits flags p v) (r1 : Nat)
      (hr : flags &&& FLAG_TSYNC ≠ 0 → r1 = 0) : FilterOutcome flags uargs v (r1, 0, attach flags p.id v)
  /-- an errno, or thread-sync refused (positive return value, errno 0) -/
  | refused (r1 e : Nat) (hr : e ≠ 0 ∨ flags &&& FLAG_TSYNC ≠ 0 ∧ r1 ≠ 0)
      (h : ∀ p, uargs = some p → ¬ Admits flags p v) : FilterOutcome flags uargs v (r1, e, v)

theorem cannotSync_eq_none (v : World) : cannotSync v = none ↔
    ∀ t ∈ v.live, t ≠ v.cur → (v.thr t).filters.isSuffixOf (v.thr v.cur).filters = true := by
  simp [cannotSync]

/-- The operation is the literal `1` because the regenerated `Gen.loadFilter` carries the literal; `LoaderSpec`
    writes the named constant, which is `1` by `rfl`. -/
theorem sysSeccomp_filter (flags : Nat) (uargs : Option Prog) (w : World) :
    FilterOutcome flags uargs (w.enter (.seccomp · 1 flags uargs)) (sysSeccomp 1 flags uargs w) := by
  unfold sysSeccomp
  extract_lets v0 v me
  show FilterOutcome flags uargs v _
  clear_value v
  rw [if_neg (show ¬ 1 = SECCOMP_SET_MODE_STRICT by decide), if_pos (show 1 = SECCOMP_SET_MODE_FILTER from rfl)]
  -- every refusal is the negation of one field of `Admits`
  have no {r1 e} (hr : e ≠ 0) (h : ∀ p, uargs = some p → ¬ Admits flags p v) :
      FilterOutcome flags uargs v (r1, e, v) := .refused r1 e (.inl hr) h
  by_cases h0 : v.seccompAvailable = false
  · rw [if_pos h0]
    exact no (Refusal.errno_ne_zero _) fun p _ a => by rw [a.avail] at h0; cases h0
  rw [if_neg h0]
  by_cases h1 : flags &&& knownFlags ≠ flags
  · rw [if_pos h1]
    exact no (by decide) fun p _ a => h1 a.known
  rw [if_neg h1]
  by_cases h2 : flags &&& FLAG_TSYNC ≠ 0 ∧ flags &&& FLAG_NEW_LISTENER ≠ 0
  · rw [if_pos h2]
    exact no (by decide) fun p _ a => a.combo h2
  rw [if_neg h2]
  cases uargs with
  | none => exact no (by decide) fun p hp => nomatch hp
  | some p =>
    show FilterOutcome flags (some p) v (if _ then _ else _)
    by_cases h3 : p.len = 0 ∨ p.len > BPF_MAXINSNS
    · rw [if_pos h3]
      exact no (by decide) fun q hq a => by cases hq; exact h3.elim a.len.1 (Nat.not_lt.2 a.len.2)
    rw [if_neg h3]
    by_cases h4 : (!(me.nnp || v.privileged)) = true
    · rw [if_pos h4]
      exact no (by decide) fun q _ a => by rcases a.priv with h | h <;> simp [me, h] at h4
    rw [if_neg h4]
    by_cases h5 : (!p.ok) = true
    · rw [if_pos h5]
      exact no (by decide) fun q hq a => by cases hq; simp [a.ok] at h5
    rw [if_neg h5]
    have adm (hs : flags &&& FLAG_TSYNC ≠ 0 → cannotSync v = none) : Admits flags p v :=
      ⟨by simpa using h0, by simpa using h1, h2, by omega,
        by simpa only [Bool.not_eq_true', Bool.not_eq_false, Bool.or_eq_true] using h4, by simpa using h5,
        fun h => (cannotSync_eq_none v).1 (hs h)⟩
    by_cases h6 : flags &&& FLAG_TSYNC ≠ 0
    · rw [if_pos h6]
      cases hs : cannotSync v with
      | some t =>
        exact .refused _ _ (.inr ⟨h6, Nat.succ_ne_zero t⟩) fun q hq a => by
          rw [(cannotSync_eq_none v).2 (a.sync h6)] at hs; cases hs
      | none =>
        have := FilterOutcome.attached p rfl (adm fun _ => hs) 0 fun _ => rfl
        simpa only [attach, if_pos h6] using this
    · rw [if_neg h6]
      have := FilterOutcome.attached p rfl (adm fun h => absurd h h6)
        (if flags &&& FLAG_NEW_LISTENER ≠ 0 then v.log.length + 2 else 0) fun h => absurd h h6
      rwa [attach_eq_upd (Decidable.not_not.1 h6)] at this

/-- the probe `seccomp(SECCOMP_SET_MODE_STRICT, 1, NULL)` -/
theorem sysSeccomp_probe (w : World) :
    sysSeccomp 0 1 none w =
      (0, if w.seccompAvailable = true then EINVAL else w.refusal.errno, w.enter (.seccomp · 0 1 none)) := by
  rw [← w.enter_avail (.seccomp · 0 1 none), ← w.enter_refusal (.seccomp · 0 1 none)]
  unfold sysSeccomp
  extract_lets v0 v me
  show _ = (0, if v.seccompAvailable = true then EINVAL else v.refusal.errno, v)
  cases v.seccompAvailable <;> rfl

theorem sysSeccomp_other (op flags : Nat) (uargs : Option Prog) (w : World) (hop : op ≠ 1) :
    (sysSeccomp op flags uargs w).2.2 = w.enter (.seccomp · op flags uargs) ∨
    (sysSeccomp op flags uargs w).2.2 =
      (w.enter (.seccomp · op flags uargs)).upd (schedStep w).cur { w.thr (schedStep w).cur with strict := true } := by
  rw [← w.enter_thr (.seccomp · op flags uargs)]
  unfold sysSeccomp
  extract_lets v0 v me
  show _ = v ∨ _ = v.upd v.cur { v.thr v.cur with strict := true }
  rw [if_neg (show ¬ op = SECCOMP_SET_MODE_FILTER from hop)]
  by_cases h0 : v.seccompAvailable = false
  · rw [if_pos h0]; exact .inl rfl
  rw [if_neg h0]
  by_cases h1 : op = SECCOMP_SET_MODE_STRICT
  · rw [if_pos h1]
    by_cases h2 : flags ≠ 0 ∨ uargs.isSome = true
    · rw [if_pos h2]; exact .inl rfl
    · rw [if_neg h2]; exact .inr rfl
  · rw [if_neg h1]; exact .inl rfl
