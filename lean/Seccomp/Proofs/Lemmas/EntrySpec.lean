import Seccomp.Proofs.Lemmas.CondSpec
/-!
# From one condition to a group, at label level

Each level of the lowering (`condsToks`: AND, `listsToks`: OR, `entryToks`, `entriesToks`) gets two facts.
Which labels its code places (`piece_*`): this is what lets a jump to any other label pass over it.  What
its code does in front of any code `rest` (`*_spec`): it continues at `action` in `rest` iff the level's
Boolean says so, and else falls through into `rest`; an entry does so with the syscall number back in the
accumulator.  Each `*_spec` rewrites with the level below, and on the branch that leaves the level early
passes over what is left of it with `Piece.contAt`.  A group is no `Piece`: it holds the raw `ja 1`.
Below an entry the statements say `∃ a'`: on leaving, the accumulator holds whichever argument half the path taken loaded
last, and nothing depends on it: every condition starts with a load, `action` is a return, and the entry reloads the
number (`ld 0`) in front of `nextSys`, which is why `entry_spec` can say `nr` again.
-/

variable (w : Nat → Word) (ly : Layout) (nr : Word) (args : Nat → BitVec 64)

def inEntry (e : Nat) : PL → Prop
  | .nextArg e' _ _ => e' = e
  | .nextIns e' _ _ _ => e' = e
  | .noMatch e' _ => e' = e
  | .afterNr e' => e' = e
  | .nextSys e' => e' = e
  | .action => False

def inList (e l : Nat) : PL → Prop
  | .nextArg e' l' _ => e' = e ∧ l' = l
  | .nextIns e' l' _ _ => e' = e ∧ l' = l
  | _ => False

theorem piece_condToks (e l c cnd m) : Piece (inList e l) (condToks ly e l c cnd m) := by
  rw [condToks_plan]
  exact .ins nofun (((piece_hiJumps _ _).mono (by rintro _ ⟨i, rfl⟩; exact ⟨rfl, rfl⟩)).append
    (.ins nofun (.ins nofun (.lab ⟨rfl, rfl⟩ .nil))))

theorem piece_condsToks (e l : Nat) : ∀ (conds : List Cnd) (c : Nat), Piece (inList e l) (condsToks ly e l c conds)
  | [], _ => .nil
  | [cnd], c => piece_condToks ly e l c cnd .action
  | cnd :: cnd2 :: tl, c => (piece_condToks ly e l c cnd _).append (piece_condsToks e l (cnd2 :: tl) (c+1))

theorem piece_listsToks (e : Nat) : ∀ (lists : List (List Cnd)) (l : Nat),
    Piece (fun x => inEntry e x ∧ x ≠ .nextSys e) (listsToks ly e l lists)
  | [], _ => .nil
  | conds :: rest, l =>
    (((piece_condsToks ly e l conds 0).mono fun
        | .nextArg .., h | .nextIns .., h => ⟨h.1, nofun⟩
        | .action, h | .nextSys _, h | .afterNr _, h | .noMatch .., h => h.elim).append
      (.lab ⟨rfl, nofun⟩ .nil)).append (piece_listsToks e rest (l+1))

theorem piece_entryToks (e : Nat) : ∀ ent : Entry, Piece (inEntry e) (entryToks ly e ent)
  | .uncond _ => piece_jt _ _ rfl
  | .cond _ lists =>
    -- `by exact rfl`: a bare `rfl` is elaborated before `P` is known here, and makes `P fresh` an `?a = ?a`
    ((piece_jt _ _ (by exact rfl)).append ((piece_listsToks ly e lists 0).mono fun _ h => h.1)).append
      (.ins nofun (.lab rfl .nil))

theorem piece_entriesToks : ∀ (ents : List Entry) (e : Nat), Piece (· ≠ .action) (entriesToks ly e ents)
  | [], _ => .nil
  | ent :: more, e =>
    ((piece_entryToks ly e ent).mono fun x h => by rintro rfl; exact h).append (piece_entriesToks more (e+1))

theorem conds_spec (hs : Sees ly w nr args) (e l : Nat) : ∀ (conds : List Cnd) (c : Nat) (rest : List (Tok PL)) (a : Word),
    ∃ a', runT w (condsToks ly e l c conds ++ .lab (.noMatch e l) :: rest) a =
      if listMatches args conds then contAt w .action rest a' else runT w rest a'
  | [], _, rest, a => ⟨a, by simp [condsToks, listMatches]⟩
  | [cnd], c, rest, a => by
    obtain ⟨a', h⟩ := cond_spec w ly nr args hs e l c cnd .action (.lab (.noMatch e l) :: rest) a (by simp)
    refine ⟨a', ?_⟩
    simp only [condsToks, h, K]
    by_cases hh : cnd.holds args = true <;> simp [hh, listMatches, contAt_cons_lab_ne]
  | cnd :: cnd2 :: tl, c, rest, a => by
    obtain ⟨a1, h⟩ := cond_spec w ly nr args hs e l c cnd (.nextArg e l c)
      (condsToks ly e l (c+1) (cnd2 :: tl) ++ .lab (.noMatch e l) :: rest) a (by simp)
    obtain ⟨a2, ih⟩ := conds_spec hs e l (cnd2 :: tl) (c+1) rest a1
    simp only [condsToks, List.append_assoc, h, K]
    by_cases hh : cnd.holds args = true
    · exact ⟨a2, by simp [hh, ih, listMatches]⟩
    · exact ⟨a1, by simp [hh, listMatches, contAt_cons_lab_ne,
        (piece_condsToks ly e l _ _).contAt w (x := .noMatch e l) (by simp [inList])]⟩

/-- `conds_spec` with `listMatches` written out -/
theorem list_spec (hs : Sees ly w nr args) (e l : Nat) : ∀ (conds : List Cnd) (c : Nat) (rest : List (Tok PL)) (a : Word),
    ∃ a', runT w (condsToks ly e l c conds ++ .lab (.noMatch e l) :: rest) a =
      if conds.isEmpty then runT w rest a
      else if conds.all (·.holds args) then contAt w .action rest a' else runT w rest a'
  | [], _, rest, a => ⟨a, by simp [condsToks]⟩
  | cnd :: tl, c, rest, a => by simpa [listMatches] using conds_spec w ly nr args hs e l (cnd :: tl) c rest a

theorem lists_spec (hs : Sees ly w nr args) (e : Nat) : ∀ (lists : List (List Cnd)) (l : Nat) (rest : List (Tok PL)) (a : Word),
    ∃ a', runT w (listsToks ly e l lists ++ rest) a =
      if lists.any (listMatches args) then contAt w .action rest a' else runT w rest a'
  | [], _, rest, a => ⟨a, by simp [listsToks]⟩
  | conds :: more, l, rest, a => by
    obtain ⟨a1, h⟩ := conds_spec w ly nr args hs e l conds 0 (listsToks ly e (l+1) more ++ rest) a
    obtain ⟨a2, ih⟩ := lists_spec hs e more (l+1) rest a1
    simp only [listsToks, List.append_assoc, List.cons_append, List.nil_append, h, List.any_cons]
    by_cases hm : listMatches args conds = true
    · exact ⟨a1, by simp [hm, (piece_listsToks ly e _ _).contAt w (x := .action) (by simp [inEntry])]⟩
    · exact ⟨a2, by simp [hm, ih]⟩
#print axioms lists_spec

theorem entry_spec (hs : Sees ly w nr args) (e : Nat) (ent : Entry) (rest : List (Tok PL)) :
    ∃ a', runT w (entryToks ly e ent ++ rest) nr =
      if ent.matches nr args then contAt w .action rest a' else runT w rest nr := by
  cases ent with
  | uncond num => exact ⟨nr, by simp [entryToks, runT_jt, Cond.eval, Entry.matches]⟩
  | cond num lists =>
    obtain ⟨a1, hl⟩ := lists_spec w ly nr args hs e lists 0 (.ins (.ld 0) :: .lab (.nextSys e) :: rest) nr
    simp only [entryToks, List.append_assoc, List.cons_append, List.nil_append,
      runT_jt w _ _ (show PL.nextSys e ≠ .afterNr e by simp), hl, Cond.eval, Entry.matches]
    by_cases h : nr = num
    · exact ⟨a1, by simp [h, contAt_cons_ins, contAt_cons_lab_ne, hs.nr]⟩
    · exact ⟨nr, by simp [h, contAt_cons_ins, (piece_listsToks ly e _ _).contAt w (x := .nextSys e) (by simp)]⟩

theorem entries_spec (hs : Sees ly w nr args) : ∀ (ents : List Entry) (e : Nat) (rest : List (Tok PL)),
    ∃ a', runT w (entriesToks ly e ents ++ rest) nr =
      if ents.any (·.matches nr args) then contAt w .action rest a' else runT w rest nr
  | [], _, rest => ⟨nr, by simp [entriesToks]⟩
  | ent :: more, e, rest => by
    obtain ⟨a1, h⟩ := entry_spec w ly nr args hs e ent (entriesToks ly (e+1) more ++ rest)
    obtain ⟨a2, ih⟩ := entries_spec hs more (e+1) rest
    simp only [entriesToks, List.append_assoc, h, List.any_cons]
    by_cases hm : ent.matches nr args = true
    · exact ⟨a1, by simp [hm, (piece_entriesToks ly _ _).contAt w (x := .action) (by simp)]⟩
    · exact ⟨a2, by simp [hm, ih]⟩

theorem group_spec (hs : Sees ly w nr args) (ents : List Entry) (r : Word) :
    runT w (groupToks ly ents r) nr = if ents.any (·.matches nr args) then .ret r else .exit nr := by
  obtain ⟨a', h⟩ := entries_spec w ly nr args hs ents 0 [.ins (.ja 1), .lab .action, .ins (.ret r)]
  rw [groupToks, h]
  split <;> simp [contAt_cons_ins, runT_ja, dropIns]
#print axioms group_spec
