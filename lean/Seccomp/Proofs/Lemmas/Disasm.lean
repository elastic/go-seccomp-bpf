import Seccomp.Model.Disasm
/-!
# Lemmas about the disassembly parser model (used by `Proofs/C16.lean`)

First the predicates in which C16 states its theorems.  Then the functions of the model that guard a slice or an
index, with the guard discharged; `parseLine` (the Go function `parseX86_64`, which serves both architectures) and
an iteration of the loop as case analyses; the loop with its invariant `Inv`; the scanner.  Last, `parseChars`, the
form of `parse x86_64Parser` in which C16's examples are evaluated.
-/

namespace Disasm

variable {p : Parser} {tbl : Nat → Option String}

/-- `strings.HasPrefix(line, "TEXT")` -/
def isText (l : Bytes) : Bool := hasPrefix functionMarker l

/-- Number and assembly text of the finding `s` were taken from one of the lines `ls`: the `XORL AX, AX` special
    case (number 0), or a match of one of the two regular expressions, with the captured operand as number. -/
def FromLines (s : Syscall) (ls : List Bytes) : Prop :=
  (s.assembly = xorl ∧ s.num = 0 ∧ ∃ l ∈ ls, contains xorl l = true) ∨
  (∃ l ∈ ls, ∃ re, (re = rawRegex ∨ re = callRegex) ∧
     ∃ grp, re.find l = some (s.assembly, grp) ∧ parseInt grp = some s.num)

/-- `f` is the name on the marker line in which `pre` ends (`pre` empty: no marker yet, the name is empty) -/
def HeadOK (pre : List Bytes) (f : Bytes) : Prop :=
  (pre = [] ∧ f = []) ∨ ∃ pre' t, pre = pre' ++ [t] ∧ isText t = true ∧ f = t.drop 5

/-- `body ++ [site]` lies inside one function, after the last marker that precedes the site; the reported caller is
    the name on that marker line, and the number was read off `body ++ [site]`. -/
def Scoped (ls : List Bytes) (s : Syscall) : Prop :=
  ∃ pre body site post, ls = pre ++ body ++ site :: post ∧ (∀ l ∈ body ++ [site], isText l = false) ∧
    HeadOK pre s.caller ∧ FromLines s (body ++ [site])

/-- a byte that `strings.Fields` may drop: an ASCII blank, or ≥ 0x80 (only such bytes can belong to another
    white-space rune) -/
def Spaceish (b : UInt8) : Prop :=
  b = 9 ∨ b = 10 ∨ b = 11 ∨ b = 12 ∨ b = 13 ∨ b = 32 ∨ 128 ≤ b

instance (b : UInt8) : Decidable (Spaceish b) := by unfold Spaceish; infer_instance

def SolidPat (pat : Bytes) : Prop := ∃ b ∈ pat, ¬ Spaceish b

/-- what makes `fields[0]` safe: a line that contains one of the patterns has a field
    (`Parser.Solid.fields_ne_nil`) -/
def Parser.Solid (p : Parser) : Prop := (∀ ins ∈ p.raw, SolidPat ins) ∧ SolidPat p.callOp

/-- To evaluate `ofStr` on a string literal the kernel decodes it (UTF-8 bytes to characters), at thousands of
    heartbeats a character, more the longer the literal.  Rewriting with this lemma first hands the kernel the
    characters: `rw` unifies a literal with `String.ofList ?l` (`simp` does not). -/
theorem ofStr_ofList (l : List Char) : ofStr (String.ofList l) = l.map fun c => c.toNat.toUInt8 :=
  congrArg _ String.toList_ofList

theorem x86_64Parser_solid : x86_64Parser.Solid := by
  unfold Parser.Solid SolidPat x86_64Parser
  repeat rw [ofStr_ofList]
  decide +kernel

theorem i386Parser_solid : i386Parser.Solid := by
  unfold Parser.Solid SolidPat i386Parser
  repeat rw [ofStr_ofList]
  decide +kernel

theorem infix_of_contains {pat : Bytes} : ∀ {l : Bytes}, contains pat l = true → pat <:+: l
  | [], h => by simp_all [contains]
  | x :: t, h => by
    rw [contains, Bool.or_eq_true] at h
    exact h.elim (fun h => (List.isPrefixOf_iff_prefix.mp h).isInfix)
      fun h => (infix_of_contains h).trans (List.suffix_cons x t).isInfix

theorem spaceLen_spaceish (l : Bytes) : ∀ b ∈ l.take (spaceLen l), Spaceish b := by
  -- where `spaceLen` answers `n > 0`, the tests passed on the way pin down the first `n` bytes
  fun_cases spaceLen l <;> simp <;> grind [Spaceish]

theorem flush_eq_nil {cur : Bytes} : flush cur = [] ↔ cur = [] := by
  unfold flush; cases cur <;> simp

theorem fieldsAux_nil (l : Bytes) (skip : Nat) (cur : Bytes) (h : fieldsAux skip cur l = []) :
    cur = [] ∧ ∀ b ∈ l.drop skip, Spaceish b := by
  fun_induction fieldsAux skip cur l with
  | case1 => simp_all [flush_eq_nil]
  | case2 skip cur _ t ih => simpa using ih h
  | case3 cur b t hk ih => cases (ih h).1
  | case4 cur b t k hk ih =>
    have h := List.append_eq_nil_iff.mp h
    refine ⟨flush_eq_nil.mp h.1, fun x hx => ?_⟩
    have sp := spaceLen_spaceish (b :: t) x
    rw [hk] at sp
    rw [List.drop_zero, ← List.take_append_drop (k + 1) (b :: t)] at hx
    exact (List.mem_append.mp hx).elim sp ((ih h.2).2 x)

theorem fields_ne_nil_of_contains {pat l : Bytes} (hp : SolidPat pat) (h : contains pat l = true) :
    fields l ≠ [] := fun hf =>
  let ⟨b, hb, hs⟩ := hp
  hs ((fieldsAux_nil l 0 [] hf).2 b ((infix_of_contains h).subset hb))

theorem Parser.Solid.fields_ne_nil (hp : p.Solid) {line : Bytes}
    (h : p.isRawSyscall line = true ∨ p.isFunctionCall line = true) : fields line ≠ [] := by
  rcases h with h | h
  · obtain ⟨ins, hi, hc⟩ := List.any_eq_true.mp h
    exact fields_ne_nil_of_contains (hp.1 ins hi) hc
  · exact fields_ne_nil_of_contains hp.2 h

theorem functionField_eq (fs : List Bytes) : functionField fs = some (joinSp (fs.drop 3)) := by
  unfold functionField sliceFrom
  split
  · rw [List.drop_eq_nil_of_le (by omega)]; rfl
  · rw [if_pos (by omega)]

/-- only `fields[0]` can panic -/
theorem withFields_eq (line : Bytes) (k : Bytes → Bytes → LineResult) :
    withFields line k = (fields line).head?.map fun loc => k loc (joinSp ((fields line).drop 3)) := by
  unfold withFields index
  simp only [functionField_eq, List.head?_eq_getElem?]
  cases (fields line)[0]? <;> rfl

theorem lastInstruction_eq (win : List Bytes) : lastInstruction win = some (win[1]?.getD []) := by
  unfold lastInstruction index
  split
  · rw [List.getElem?_eq_getElem (by omega)]; rfl
  · rw [List.getElem?_eq_none (by omega)]; rfl

theorem fromLines_mono {s : Syscall} {ls ls' : List Bytes} (hsub : ls ⊆ ls') (h : FromLines s ls) :
    FromLines s ls' := by
  rcases h with ⟨h1, h2, l, hl, h3⟩ | ⟨l, hl, h⟩
  · exact Or.inl ⟨h1, h2, l, hsub hl, h3⟩
  · exact Or.inr ⟨l, hsub hl, h⟩

theorem findSyscallNum_found {re : Regex} {win : List Bytes} {n : Int} {a : Bytes}
    (h : findSyscallNum re win = .found n a) :
    ∃ l ∈ win, ∃ grp, re.find l = some (a, grp) ∧ parseInt grp = some n := by
  fun_induction findSyscallNum re win with
  | case1 => cases h
  | case2 line older hfind ih =>
    obtain ⟨l, hl, r⟩ := ih h
    exact ⟨l, List.mem_cons_of_mem _ hl, r⟩
  | case3 line older whole grp hfind hparse => cases h
  | case4 line older whole grp hfind k hk =>
    cases h
    exact ⟨line, List.mem_cons_self, grp, hfind, hk⟩

theorem parseLine_cases {line caller : Bytes} {win : List Bytes} {P : Option LineResult → Prop}
    (plain : P (some .notSyscall))
    (site : ∀ k, (p.isRawSyscall line = true ∨ p.isFunctionCall line = true) →
      (∀ loc fn s, k loc fn = .found s → FromLines s win) → P (withFields line k)) :
    P (parseLine p line caller win) := by
  unfold parseLine
  extract_lets number
  -- the common tail of `parseX86_64`: the finding is what `findSyscallNum` found
  have tail {re : Regex} (hre : re = rawRegex ∨ re = callRegex)
      (hpat : p.isRawSyscall line = true ∨ p.isFunctionCall line = true) : P (number re) :=
    site _ hpat fun loc fn s h => by
      split at h
      · cases h
      · cases h
        obtain ⟨l, hl, grp, h1, h2⟩ := findSyscallNum_found ‹_›
        exact Or.inr ⟨l, hl, re, hre, grp, h1, h2⟩
  simp only [lastInstruction_eq]
  split
  · have hpat := Or.inl (b := p.isFunctionCall line = true) (Bool.and_eq_true_iff.mp ‹_›).1
    split
    · rename_i hx
      refine site _ hpat fun loc fn s h => ?_
      cases h
      refine Or.inl ⟨rfl, rfl, _, ?_, hx.2⟩
      -- the instruction is not empty, so it is the second line of the window
      cases hw : win[1]? with
      | none => simp [hw] at hx
      | some inst => exact List.mem_of_getElem? hw
    · exact tail (Or.inl rfl) hpat
  · split
    · exact tail (Or.inr rfl) (Or.inr (Bool.and_eq_true_iff.mp ‹_›).1)
    · exact plain

theorem parseLine_isSome (hp : p.Solid) (line caller : Bytes) (win : List Bytes) :
    (parseLine p line caller win).isSome :=
  parseLine_cases (P := fun r => r.isSome) rfl fun k h _ => by
    rw [withFields_eq, Option.isSome_map, List.isSome_head?]
    exact hp.fields_ne_nil h

theorem parseLine_found {line caller : Bytes} {win : List Bytes} {s : Syscall} :
    parseLine p line caller win = some (.found s) → FromLines s win :=
  parseLine_cases (P := fun r => r = some (.found s) → FromLines s win) nofun fun _ _ hk h =>
    let ⟨loc, _, hr⟩ := Option.map_eq_some_iff.mp (withFields_eq .. ▸ h)
    hk loc _ s hr

theorem functionMarker_length : functionMarker.length = 4 := by rw [functionMarker, ofStr_ofList]; rfl

/-- `line[len(functionMarker)+1:]` is `line.drop 5` (`functionMarker_length`) also for the bare marker, whose guard gives
    the empty name; a panic can only come from `parseX86_64` -/
theorem step_eq (st : St) (line : Bytes) :
    step p tbl st line =
      if isText line then some { st with function := line.drop 5, window := [] }
      else (parseLine p line st.function (line :: st.window)).map fun
        | .found s => match lookupNum tbl s.num with
          | none => { st with window := [] }
          | some name =>
            { st with window := [], found := st.found ++ [{ s with caller := st.function, name := name }] }
        | _ => { st with window := line :: st.window } := by
  unfold step isText
  split
  · rename_i ht
    have := (List.isPrefixOf_iff_prefix.mp ht).length_le
    rw [functionMarker_length] at this ⊢
    split
    · rw [sliceFrom, if_pos (by omega)]
    · rw [List.drop_eq_nil_of_le (by omega)]
  · dsimp only
    cases parseLine p line st.function (line :: st.window) with
    | none => rfl
    | some r =>
      cases r with
      | found s => dsimp only [Option.map]; cases lookupNum tbl s.num <;> rfl
      | _ => rfl

theorem step_cases {st st' : St} {line : Bytes} {P : St → Prop}
    (h : step p tbl st line = some st')
    (text : isText line = true → P { st with function := line.drop 5, window := [] })
    (keep : isText line = false → P { st with window := line :: st.window })
    (drop : isText line = false → P { st with window := [] })
    (report : isText line = false → ∀ s name,
      parseLine p line st.function (line :: st.window) = some (.found s) → lookupNum tbl s.num = some name →
      P { st with window := [], found := st.found ++ [{ s with caller := st.function, name := name }] }) :
    P st' := by
  rw [step_eq] at h
  split at h
  · cases h; exact text ‹_›
  · rename_i ht
    replace ht := Bool.eq_false_iff.mpr ht
    obtain ⟨r, hr, rfl⟩ := Option.map_eq_some_iff.mp h
    cases r with
    | found s =>
      dsimp only
      split
      · exact drop ht
      · exact report ht s _ hr ‹_›
    | _ => exact keep ht

theorem step_ne_none (hp : p.Solid) (st : St) (line : Bytes) : step p tbl st line ≠ none := by
  rw [step_eq]
  split
  · simp
  · simpa [← Option.isSome_iff_ne_none] using parseLine_isSome hp line st.function (line :: st.window)

theorem step_found_prefix {st st' : St} {line : Bytes} (h : step p tbl st line = some st') :
    st.found <+: st'.found :=
  step_cases (P := fun s => st.found <+: s.found) h (fun _ => List.prefix_refl _) (fun _ => List.prefix_refl _)
    (fun _ => List.prefix_refl _) fun _ _ _ _ _ => List.prefix_append _ _

theorem lookupNum_some {n : Int} {name : String} (h : lookupNum tbl n = some name) :
    ∃ k : Nat, n = (k : Int) ∧ tbl k = some name := by
  unfold lookupNum at h
  split at h
  · cases h
  · exact ⟨n.toNat, (Int.toNat_of_nonneg (Int.not_lt.mp ‹_›)).symm, h⟩

theorem run_eq_foldlM (st : St) (ls : List Bytes) :
    run p tbl st ls = ls.foldlM (fun st l => step p tbl st l) st := by
  induction ls generalizing st with
  | nil => rfl
  | cons l ls ih =>
    rw [run, List.foldlM_cons]
    cases step p tbl st l with
    | none => rfl
    | some st' => exact ih st'

theorem run_append {p : Parser} {tbl : Nat → Option String} : ∀ (a b : List Bytes) (st : St),
    run p tbl st (a ++ b) = (run p tbl st a).bind (fun st1 => run p tbl st1 b) := by
  intro a b st
  simp only [run_eq_foldlM, List.foldlM_append]
  rfl

theorem run_ne_none (hp : p.Solid) : ∀ (ls : List Bytes) (st : St), run p tbl st ls ≠ none
  | [], st => by simp [run]
  | l :: ls, st => by
    rw [run]
    split
    · exact absurd ‹_› (step_ne_none hp st l)
    · exact run_ne_none hp ls _

theorem run_induction {P : List Bytes → St → Prop}
    (hs : ∀ pre st l st', P pre st → step p tbl st l = some st' → P (pre ++ [l]) st')
    (ls pre : List Bytes) (st st' : St) (hi : P pre st) (h : run p tbl st ls = some st') :
    P (pre ++ ls) st' := by
  induction ls generalizing pre st with
  | nil =>
    cases h
    rwa [List.append_nil]
  | cons l ls ih =>
    rw [run] at h
    split at h
    · cases h
    · rw [List.append_cons]
      exact ih _ _ (hs _ _ _ _ hi ‹_›) h

theorem run_found_prefix {ls : List Bytes} {st st' : St} (h : run p tbl st ls = some st') :
    st.found <+: st'.found :=
  run_induction (P := fun _ s => st.found <+: s.found) (fun _ _ _ _ hi hs => hi.trans (step_found_prefix hs))
    ls [] st st' (List.prefix_refl _) h

theorem scoped_mono {ls : List Bytes} {s : Syscall} (more : List Bytes) (h : Scoped ls s) :
    Scoped (ls ++ more) s := by
  obtain ⟨pre, body, site, post, rfl, h1, h2, h3⟩ := h
  exact ⟨pre, body, site, post ++ more, by simp, h1, h2, h3⟩

/-- Invariant of the loop of `Parse` after the lines `processed`.  `split`: the window (newest line first) lies
    within `body`, the lines since the last marker, so it never reaches behind that marker. -/
structure Inv (tbl : Nat → Option String) (processed : List Bytes) (st : St) : Prop where
  split : ∃ pre body, processed = pre ++ body ∧ (∀ l ∈ body, isText l = false) ∧
            HeadOK pre st.function ∧ st.window.reverse <:+ body
  found : ∀ s ∈ st.found, Scoped processed s ∧ lookupNum tbl s.num = some s.name

theorem step_inv {processed : List Bytes} {st st' : St} {line : Bytes} (hi : Inv tbl processed st)
    (h : step p tbl st line = some st') : Inv tbl (processed ++ [line]) st' := by
  obtain ⟨⟨pre, body, hpb, hbody, hhead, hwin⟩, hfound⟩ := hi
  have old : ∀ s ∈ st.found, Scoped (processed ++ [line]) s ∧ lookupNum tbl s.num = some s.name :=
    fun s hs => ⟨scoped_mono [line] (hfound s hs).1, (hfound s hs).2⟩
  -- a line that is no marker extends the body of the current function
  have hbody' (ht : isText line = false) : ∀ l ∈ body ++ [line], isText l = false := fun l hl =>
    (List.mem_append.mp hl).elim (hbody l) fun hl => List.mem_singleton.mp hl ▸ ht
  have grow (ht : isText line = false) (w : List Bytes) (hw : w.reverse <:+ body ++ [line]) :
      ∃ pre body, processed ++ [line] = pre ++ body ∧ (∀ l ∈ body, isText l = false) ∧
        HeadOK pre st.function ∧ w.reverse <:+ body :=
    ⟨pre, body ++ [line], by rw [hpb, List.append_assoc], hbody' ht, hhead, hw⟩
  refine step_cases h (fun ht => ⟨?_, old⟩) (fun ht => ⟨grow ht _ ?_, old⟩)
    (fun ht => ⟨grow ht [] List.nil_suffix, old⟩) (fun ht s name hs hn => ⟨grow ht [] List.nil_suffix, ?_⟩)
  · exact ⟨processed ++ [line], [], (List.append_nil _).symm, nofun, Or.inr ⟨processed, line, rfl, ht, rfl⟩,
      List.nil_suffix⟩
  · rw [List.reverse_cons]
    exact (List.suffix_append_inj_of_length_eq rfl).mpr ⟨hwin, rfl⟩
  · intro s' hs'
    rcases List.mem_append.mp hs' with hs' | hs'
    · exact old s' hs'
    · cases List.mem_singleton.mp hs'
      refine ⟨⟨pre, body, line, [], by rw [hpb], hbody' ht, hhead, ?_⟩, hn⟩
      -- the window the site was read from, `line :: st.window`, lies in `body ++ [line]`
      exact fromLines_mono (s := s) (List.cons_subset.mpr ⟨by simp, fun l hl =>
        List.mem_append_left _ (hwin.subset (List.mem_reverse.mpr hl))⟩) (parseLine_found hs)

theorem inv_init : Inv tbl [] St.init :=
  ⟨⟨[], [], rfl, nofun, Or.inl ⟨rfl, rfl⟩, List.nil_suffix⟩, nofun⟩

theorem run_inv {ls : List Bytes} {st : St} (h : run p tbl St.init ls = some st) : Inv tbl ls st := by
  simpa using run_induction (P := Inv tbl) (fun _ _ _ _ => step_inv) ls [] _ _ inv_init h

theorem scan_tooLong_iff (ls : List Bytes) : (scan ls).2 = true ↔ ∃ l ∈ ls, l.length ≥ maxToken := by
  fun_induction scan ls with
  | case1 => simp
  | case2 l rest h => simpa using Or.inl h
  | case3 l rest h ts e hs ih =>
    rw [hs] at ih
    simp [ih, h]

theorem scan_append (a b : List Bytes) :
    scan (a ++ b) = if (scan a).2 then scan a else ((scan a).1 ++ (scan b).1, (scan b).2) := by
  fun_induction scan a with
  | case1 => simp
  | case2 l rest h => simp [scan, h]
  | case3 l rest h ts e hs ih =>
    rw [List.cons_append, scan, if_neg h, ih, hs]
    cases e <;> rfl

theorem run_scan_append (a b : List Bytes) (st st' : St) :
    (scan (a ++ b)).2 = false ∧ run p tbl st (scan (a ++ b)).1 = some st' ↔
      (scan a).2 = false ∧ (scan b).2 = false ∧
      ∃ st1, run p tbl st (scan a).1 = some st1 ∧ run p tbl st1 (scan b).1 = some st' := by
  rw [scan_append]
  cases h : (scan a).2 <;> simp [h, run_append, Option.bind_eq_some_iff]

theorem rawLinesAux_append_nl (cur t0 t' : Bytes) :
    rawLinesAux cur (t0 ++ 10 :: t') = rawLinesAux cur (t0 ++ [10]) ++ rawLinesAux [] t' := by
  induction t0 generalizing cur with
  | nil => simp [rawLinesAux]
  | cons x t0 ih =>
    simp only [List.cons_append, rawLinesAux, ih]
    split <;> rfl

theorem rawLinesAux_long (b cur : Bytes) (hc : cur ≠ []) : ∃ r ∈ rawLinesAux cur b, cur.length ≤ r.length := by
  fun_induction rawLinesAux cur b with
  | case1 cur h => simp_all
  | case2 cur h => exact ⟨cur.reverse, List.mem_singleton.mpr rfl, by simp⟩
  | case3 cur t ih => exact ⟨cur.reverse, List.mem_cons_self, by simp⟩
  | case4 cur b t hb ih =>
    obtain ⟨r, hr, hl⟩ := ih (by simp)
    exact ⟨r, hr, by simp at hl; omega⟩

theorem rawLinesAux_run (b l cur : Bytes) (h : 10 ∉ l) :
    rawLinesAux cur (l ++ b) = rawLinesAux (l.reverse ++ cur) b := by
  induction l generalizing cur with
  | nil => rfl
  | cons x l ih =>
    rw [List.mem_cons, not_or] at h
    simp [rawLinesAux, Ne.symm h.1, ih _ h.2]

theorem rawLines_long_run (a l b : Bytes) (hl : 10 ∉ l) (hne : l ≠ []) :
    ∃ r ∈ rawLines (a ++ l ++ b), l.length ≤ r.length := by
  -- whatever precedes the run only decides what is pending (`cur`) when the run starts
  have main (cur : Bytes) : ∃ r ∈ rawLinesAux cur (a ++ (l ++ b)), l.length ≤ r.length := by
    induction a generalizing cur with
    | nil =>
      rw [List.nil_append, rawLinesAux_run b l cur hl]
      obtain ⟨r, hr, hlen⟩ := rawLinesAux_long b (l.reverse ++ cur) (by simp [hne])
      exact ⟨r, hr, by simp at hlen; omega⟩
    | cons x a ih =>
      rw [List.cons_append, rawLinesAux]
      split
      · obtain ⟨r, hr, h⟩ := ih []
        exact ⟨r, List.mem_cons_of_mem _ hr, h⟩
      · exact ih _
  simpa [rawLines] using main []

theorem parse_none (content : Bytes) :
    parse p tbl content none =
      match run p tbl St.init (scan (rawLines content)).1 with
      | none => .panic
      | some st => if (scan (rawLines content)).2 then .error else .ok st.found := by
  simp only [parse, Option.isSome_none, Bool.or_false]
  rfl

theorem parse_ok_iff {content : Bytes} {fail : Option Nat} {r : List Syscall} :
    parse p tbl content fail = .ok r ↔
      fail = none ∧ (scan (rawLines content)).2 = false ∧
      ∃ st, run p tbl St.init (scan (rawLines content)).1 = some st ∧ st.found = r := by
  cases fail with
  | some k => unfold parse; dsimp only; split <;> simp
  | none =>
    rw [parse_none]
    split <;> rename_i h
    · simp [h]
    · cases (scan (rawLines content)).2 <;> simp [h]

/-! ## evaluating `parse` in the kernel

Each constant of the parser with every `ofStr "…"` rewritten by `ofStr_ofList` (the value `_` is what the rewriting
arrives at); `parseChars` is `parse x86_64Parser` with these in place of the constants (kept as constants of their own:
written out inside `parseChars` the kernel evaluates them again at every line).  An example rewrites the
literals of its listing first (`repeat rw [ofStr_ofList]`), while the goal is still `parse … = …`: once `parse` is
unfolded, checking a rewrite of a closed subterm makes the kernel evaluate the whole.  Then `simp only [parseChars.2]`
and not `rw`, which would reach only the first `parse` of a conjunction. -/

def syscallFunctionsChars : { l // syscallFunctions = l } :=
  ⟨_, by unfold syscallFunctions; (repeat rewrite [ofStr_ofList]); rfl⟩

def functionMarkerChars : { l // functionMarker = l } :=
  ⟨_, by unfold functionMarker; rewrite [ofStr_ofList]; rfl⟩

def xorlChars : { l // xorl = l } :=
  ⟨_, by unfold xorl; rewrite [ofStr_ofList]; rfl⟩

def rawRegexChars : { re // rawRegex = re } :=
  ⟨_, by unfold rawRegex; (repeat rewrite [ofStr_ofList]); rfl⟩

def callRegexChars : { re // callRegex = re } :=
  ⟨_, by unfold callRegex; rewrite [ofStr_ofList]; rfl⟩

def x86_64ParserChars : { p // x86_64Parser = p } :=
  ⟨_, by unfold x86_64Parser; (repeat rewrite [ofStr_ofList]); rfl⟩

def parseChars :
    { f : (Nat → Option String) → Bytes → Outcome // ∀ tbl content, parse x86_64Parser tbl content none = f tbl content } :=
  ⟨_, by
    intro tbl content
    simp only [parse_none, run_eq_foldlM, step, parseLine, isSyscallFunction, syscallFunctionsChars.2,
      functionMarkerChars.2, xorlChars.2, rawRegexChars.2, callRegexChars.2, x86_64ParserChars.2]
    rfl⟩

end Disasm
