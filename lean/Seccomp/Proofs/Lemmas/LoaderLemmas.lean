import Seccomp.Proofs.Lemmas.LoadFilterLemmas
/-!
# The ways a run of `LoadFilter` can end

`LoaderSpec.load` makes at most one seccomp entry, in the world `callWorld filter w`; `LoadOutcome` lists
the four ends of a run with the world each leaves, and the tie of `LoadFilterLemmas` carries them over to the
regenerated `Gen.loadFilter`.
-/

/-- the world in which `LoadFilter` issues the seccomp call -/
def preInstall (filter : Filter) (w : World) : World :=
  if filter.noNewPrivs = true then
    (sysPrctl 38 1 0 0 0 (lockOSThread w)).2.2
  else w

/-- the thread `LoadFilter`'s seccomp call runs on: where the schedule point that opens the call puts the goroutine (the
    caller's own thread when the lock is held, `callWorld_cur_of_nnp`).  In the namespace of C09, whose statements speak of
    it; defined here because `callWorld_cur` needs it. -/
def C09.callThread (filter : Filter) (w : World) : Tid := (schedStep (preInstall filter w)).cur

/-- the fault on which `LoadFilter` gives up before the seccomp call -/
def nnpFault (filter : Filter) (w : World) : Prop := filter.noNewPrivs = true ∧ w.nnpAvailable = false

/-- The arguments are the literals `38 1 0 0 0` of the regenerated `Gen.setNoNewPrivs`;
    `38 = PR_SET_NO_NEW_PRIVS` by `rfl`. -/
theorem sysPrctl_locked (w : World) :
    sysPrctl 38 1 0 0 0 (lockOSThread w) =
      if w.nnpAvailable = true then
        (0, 0, ({ lockOSThread w with log := .prctl w.cur 38 1 0 0 0 :: w.log } : World).upd w.cur
          { w.thr w.cur with nnp := true })
      else (0, EINVAL, { lockOSThread w with log := .prctl w.cur 38 1 0 0 0 :: w.log }) := by
  have hl : (lockOSThread w).lockCount ≠ 0 := Nat.succ_ne_zero _
  rw [sysPrctl_eq, if_pos (show 38 = PR_SET_NO_NEW_PRIVS from rfl), World.enter_locked _ _ hl, schedStep_locked _ hl]
  by_cases ha : w.nnpAvailable = true
  · rw [if_pos ha, if_pos ⟨rfl, rfl, rfl, rfl, ha⟩]; rfl
  · rw [if_neg ha, if_neg (ha ·.2.2.2.2)]; rfl

theorem nnpFault_iff {filter : Filter} {w : World} :
    nnpFault filter w ↔ filter.noNewPrivs = true ∧ (sysPrctl 38 1 0 0 0 (lockOSThread w)).2.1 ≠ 0 := by
  rw [sysPrctl_locked, nnpFault]
  cases w.nnpAvailable <;> simp [EINVAL]

theorem preInstall_off {filter : Filter} (hn : filter.noNewPrivs = false) (w : World) : preInstall filter w = w := by
  rw [preInstall, if_neg (by simp [hn])]

theorem preInstall_eq (filter : Filter) (w : World) :
    preInstall filter w =
      if filter.noNewPrivs = true then
        if w.nnpAvailable = true then
          ({ lockOSThread w with log := .prctl w.cur 38 1 0 0 0 :: w.log } : World).upd w.cur
            { w.thr w.cur with nnp := true }
        else { lockOSThread w with log := .prctl w.cur 38 1 0 0 0 :: w.log }
      else w := by
  rw [preInstall, sysPrctl_locked]
  split
  · split <;> rfl
  · rfl

theorem preInstall_frame (filter : Filter) (w : World) :
    preInstall filter w =
      { w with lockCount := (preInstall filter w).lockCount
               log := (preInstall filter w).log
               thr := (preInstall filter w).thr } := by
  rw [preInstall_eq]
  split
  · split <;> rfl
  · rfl

theorem preInstall_live (filter : Filter) (w : World) : (preInstall filter w).live = w.live := by
  rw [preInstall_frame]
theorem preInstall_cur (filter : Filter) (w : World) : (preInstall filter w).cur = w.cur := by
  rw [preInstall_frame]
theorem preInstall_priv (filter : Filter) (w : World) : (preInstall filter w).privileged = w.privileged := by
  rw [preInstall_frame]
theorem preInstall_avail (filter : Filter) (w : World) :
    (preInstall filter w).seccompAvailable = w.seccompAvailable := by
  rw [preInstall_frame]

theorem preInstall_lock (filter : Filter) (w : World) :
    (preInstall filter w).lockCount = if filter.noNewPrivs = true then w.lockCount + 1 else w.lockCount := by
  rw [preInstall_eq]
  split
  · split <;> rfl
  · rfl

theorem preInstall_lockCount_ne_zero {filter : Filter} (hn : filter.noNewPrivs = true) (w : World) :
    (preInstall filter w).lockCount ≠ 0 := by
  rw [preInstall_lock, if_pos hn]; exact Nat.succ_ne_zero _

theorem preInstall_thr (filter : Filter) (w : World) (t : Tid) :
    (preInstall filter w).thr t = w.thr t ∨
    t = w.cur ∧ (preInstall filter w).thr t = { w.thr t with nnp := true } := by
  rw [preInstall_eq]
  split
  · split
    · by_cases ht : t = w.cur
      · exact .inr ⟨ht, by rw [ht]; exact World.upd_thr_self _ _ _⟩
      · exact .inl (World.upd_thr_ne ht)
    · exact .inl rfl
  · exact .inl rfl

/-- the world the kernel works on in `LoadFilter`'s seccomp call, but for the nesting count of
    `runtime.LockOSThread`: the kernel does not look at it and the deferred unlock makes it the caller's
    again, so with the caller's count this is also the world a refused call leaves -/
def callWorld (filter : Filter) (w : World) : World :=
  { (preInstall filter w).enter (.seccomp · 1 filter.flag (mkFprog filter.policy)) with lockCount := w.lockCount }

theorem callWorld_cur (filter : Filter) (w : World) : (callWorld filter w).cur = C09.callThread filter w := by
  rw [callWorld]; rfl
theorem callWorld_log (filter : Filter) (w : World) : (callWorld filter w).log =
    .seccomp (C09.callThread filter w) 1 filter.flag (mkFprog filter.policy) :: (preInstall filter w).log := by
  rw [callWorld, C09.callThread, World.enter_log]
theorem callWorld_thr_pre (filter : Filter) (w : World) : (callWorld filter w).thr = (preInstall filter w).thr := by
  rw [callWorld, World.enter_thr]
theorem callWorld_live (filter : Filter) (w : World) : (callWorld filter w).live = w.live := by
  rw [callWorld, World.enter_live, preInstall_live]
theorem callWorld_priv (filter : Filter) (w : World) : (callWorld filter w).privileged = w.privileged := by
  rw [callWorld, World.enter_priv, preInstall_priv]
theorem callWorld_avail (filter : Filter) (w : World) : (callWorld filter w).seccompAvailable = w.seccompAvailable := by
  rw [callWorld, World.enter_avail, preInstall_avail]

theorem callWorld_thr (filter : Filter) (w : World) (t : Tid) :
    (callWorld filter w).thr t = w.thr t ∨
    t = w.cur ∧ (callWorld filter w).thr t = { w.thr t with nnp := true } := by
  rw [callWorld_thr_pre]; exact preInstall_thr filter w t

theorem callWorld_filters (filter : Filter) (w : World) (t : Tid) :
    ((callWorld filter w).thr t).filters = (w.thr t).filters := by
  rcases callWorld_thr filter w t with h | ⟨_, h⟩ <;> rw [h]

theorem C09.callThread_mem_live (filter : Filter) {w : World} (hc : w.cur ∈ w.live) :
    C09.callThread filter w ∈ w.live := by
  have := schedStep_cur_live (preInstall filter w)
  rw [preInstall_cur, preInstall_live] at this
  exact this hc

theorem callWorld_cur_live (filter : Filter) {w : World} (hc : w.cur ∈ w.live) :
    (callWorld filter w).cur ∈ (callWorld filter w).live := by
  rw [callWorld_live, callWorld_cur]; exact C09.callThread_mem_live filter hc

theorem callWorld_cur_of_nnp {filter : Filter} (hn : filter.noNewPrivs = true) (w : World) :
    (callWorld filter w).cur = w.cur := by
  rw [callWorld_cur, C09.callThread, schedStep_locked _ (preInstall_lockCount_ne_zero hn w), preInstall_cur]

theorem callWorld_eq_of_nnp {filter : Filter} (hn : filter.noNewPrivs = true) {w : World} (ha : w.nnpAvailable = true) :
    callWorld filter w = ({ w with
        log := .seccomp w.cur 1 filter.flag (mkFprog filter.policy) :: .prctl w.cur 38 1 0 0 0 :: w.log } : World).upd
      w.cur { w.thr w.cur with nnp := true } := by
  rw [callWorld, World.enter_locked _ _ (preInstall_lockCount_ne_zero hn w), preInstall_eq, if_pos hn, if_pos ha]
  rfl

/-- locked to its thread, the goroutine installs where the `prctl` set the bit -/
theorem callWorld_bit {filter : Filter} (hn : filter.noNewPrivs = true) {w : World} (ha : w.nnpAvailable = true) :
    ((callWorld filter w).thr (callWorld filter w).cur).nnp = true := by
  rw [callWorld_eq_of_nnp hn ha]; exact congrArg Thread.nnp (World.upd_thr_self _ _ _)

/- Left reducible, the unifier would unfold `callWorld` down to `schedStep` each time it compares a world with
   one of its updates; from here on it is used through the lemmas above (or `rw [callWorld]`). -/
attribute [irreducible] callWorld

/-- the ways a run of `LoaderSpec.load` can end, each with the world it leaves.  `{ p with len := p.len % 65536 }` is the
    program the kernel is shown: `mkFprog (.prog p)`, whose length field is a `uint16`, by `rfl`. -/
inductive LoadOutcome (filter : Filter) (w : World) : ErrClass × World → Prop
  | noProgram (h : ∀ p, filter.policy ≠ .prog p) : LoadOutcome filter w (.other, w)
  | nnpRefused (p : Prog) (hp : filter.policy = .prog p) (hf : nnpFault filter w) :
      LoadOutcome filter w (.errno EINVAL, { w with log := .prctl w.cur 38 1 0 0 0 :: w.log })
  /-- which error is left open (`c` is any class but nil): C09–C11 say of a refusal only that it is reported -/
  | declined (p : Prog) (hp : filter.policy = .prog p) (hnf : ¬ nnpFault filter w) (c : ErrClass) (hc : c ≠ .nil)
      (h : ¬ Admits filter.flag { p with len := p.len % 65536 } (callWorld filter w)) :
      LoadOutcome filter w (c, callWorld filter w)
  | installed (p : Prog) (hp : filter.policy = .prog p) (hnf : ¬ nnpFault filter w)
      (h : Admits filter.flag { p with len := p.len % 65536 } (callWorld filter w)) :
      LoadOutcome filter w (.nil, attach filter.flag p.id (callWorld filter w))

theorem load_prog {filter : Filter} {p : Prog} (hp : filter.policy = .prog p) (w : World) :
    LoaderSpec.load filter w =
      if filter.noNewPrivs = true ∧ (sysPrctl 38 1 0 0 0 (lockOSThread w)).2.1 ≠ 0 then
        (.errno (sysPrctl 38 1 0 0 0 (lockOSThread w)).2.1, unlockOSThread (sysPrctl 38 1 0 0 0 (lockOSThread w)).2.2)
      else
        let r := sysSeccomp 1 filter.flag (mkFprog (.prog p)) (preInstall filter w)
        let w3 := if filter.noNewPrivs = true then unlockOSThread r.2.2 else r.2.2
        if r.2.1 ≠ 0 then (.errno r.2.1, w3)
        else if filter.flag &&& FLAG_TSYNC ≠ 0 ∧ r.1 ≠ 0 then (.other, w3) else (.nil, w3) := by
  unfold LoaderSpec.load
  rw [hp]
  rfl

theorem load_outcome (filter : Filter) (w : World) : LoadOutcome filter w (LoaderSpec.load filter w) := by
  cases hpol : filter.policy with
  | assembleFails | encodeFails => unfold LoaderSpec.load; rw [hpol]; exact .noProgram (by simp [hpol])
  | prog p =>
    rw [load_prog hpol]
    by_cases hf : nnpFault filter w
    · rw [if_pos (nnpFault_iff.1 hf), sysPrctl_locked, if_neg (by simp [hf.2])]
      exact .nnpRefused p hpol hf
    rw [if_neg (mt nnpFault_iff.2 hf)]
    have hk := sysSeccomp_filter filter.flag (mkFprog (.prog p)) (preInstall filter w)
    generalize hv : (preInstall filter w).enter _ = v at hk
    have hcw : callWorld filter w = { v with lockCount := w.lockCount } := by rw [callWorld, hpol, hv]
    -- the deferred unlock undoes the lock
    have unlocked (X : World) (hX : X.lockCount = v.lockCount) :
        (if filter.noNewPrivs = true then unlockOSThread X else X) = { X with lockCount := w.lockCount } := by
      rw [← hv, World.enter_lock, preInstall_lock] at hX
      by_cases hn : filter.noNewPrivs = true
      · rw [if_pos hn] at hX ⊢; rw [unlockOSThread, hX]; rfl
      · rw [if_neg hn] at hX ⊢; rw [← hX]
    generalize sysSeccomp 1 filter.flag _ (preInstall filter w) = r at hk ⊢
    cases hk with
    | attached q hq a r1 hr =>
      cases hq
      dsimp only
      rw [if_neg (fun h => h rfl), if_neg (fun h => h.2 (hr h.1)), unlocked (attach _ _ v) rfl]
      show LoadOutcome filter w (.nil, attach filter.flag p.id { v with lockCount := w.lockCount })
      rw [← hcw]
      exact .installed p hpol hf (hcw ▸ (Admits.lock _).2 a)
    | refused r1 e hr h =>
      dsimp only
      rw [unlocked v rfl, ← hcw]
      have hna : ¬ Admits filter.flag { p with len := p.len % 65536 } (callWorld filter w) :=
        fun a => h _ rfl ((Admits.lock _).1 (hcw ▸ a))
      by_cases he : e ≠ 0
      · rw [if_pos he]
        exact .declined p hpol hf _ nofun hna
      · rw [if_neg he, if_pos (hr.resolve_left he)]
        exact .declined p hpol hf _ nofun hna

/-- class and world are named so that `cases` applies to the outcome -/
theorem gen_load_outcome (U : Unsupported) (filter : Filter) (w : World) :
    ∃ c w', LoadOutcome filter w (c, w') ∧ ((Gen.loadFilter U filter w).1 = .nil ↔ c = .nil) ∧
      (Gen.loadFilter U filter w).1.cls = c ∧ (Gen.loadFilter U filter w).2 = w' :=
  ⟨_, _, gen_loadFilter_eq_spec U filter w ▸ load_outcome filter w, GoErr.cls_eq_nil.symm, rfl, rfl⟩

theorem gen_loadFilter_nil {U : Unsupported} {filter : Filter} {w w' : World}
    (h : Gen.loadFilter U filter w = (.nil, w')) :
    ∃ p, filter.policy = .prog p ∧ ¬ nnpFault filter w ∧
      Admits filter.flag { p with len := p.len % 65536 } (callWorld filter w) ∧
      w' = attach filter.flag p.id (callWorld filter w) := by
  obtain ⟨c, w'', o, hnil, -, hw⟩ := gen_load_outcome U filter w
  rw [h] at hnil hw
  cases hw
  cases o with
  | installed p hp hnf a => exact ⟨p, hp, hnf, a, rfl⟩
  | declined _ _ _ c hc => exact absurd (hnil.1 rfl) hc
  | noProgram | nnpRefused => exact nomatch hnil.1 rfl

theorem gen_loadFilter_ok {U : Unsupported} {filter : Filter} {w : World} {p : Prog} (hp : filter.policy = .prog p)
    (hnf : ¬ nnpFault filter w) (a : Admits filter.flag { p with len := p.len % 65536 } (callWorld filter w)) :
    (Gen.loadFilter U filter w).1 = .nil := by
  obtain ⟨c, w', o, hnil, -, -⟩ := gen_load_outcome U filter w
  rw [hnil]
  cases o with
  | installed => rfl
  | declined q hq _ c hc h => cases hp.symm.trans hq; exact absurd a h
  | noProgram h => exact absurd hp (h p)
  | nnpRefused _ _ hf => exact absurd hf hnf
