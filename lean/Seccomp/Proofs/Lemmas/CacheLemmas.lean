import Seccomp.Model.Cache
/-!
# Facts about the primitive steps of `Model/Cache.lean`

Every primitive is a `step`.  What a caller needs of one is said by a relation between the world before and
after it — `Frame` (environment and liveness), `Keeps p` (file `p` is left alone as well), `Quiet` (no file and
no buffered byte changes) — each transitive, so that a sequence of steps is described by composing them; and,
for the steps that write, by what a *live* step does to the file it writes.
-/
namespace Cache

/-- `Disasm.ofStr_ofList` for the `bytes` of this model: rewriting with it before an evaluation hands the kernel
    the characters of a literal, which it would otherwise decode. -/
theorem bytes_ofList (l : List Char) : bytes (String.ofList l) = l.map Char.toNat := by
  rw [bytes, String.toList_ofList]

theorem step_dead {α : Type} {n : String} {d : α} {f : World → α × World} {w : World} (h : w.alive = false) :
    step n d f w = (d, w) := by simp [step, h]

theorem step_live {α : Type} {n : String} {d : α} {f : World → α × World} {w : World} (h : w.alive = true) :
    step n d f w = ((f w).1, tick n (f w).2) := by simp [step, h]

theorem step_alive {α : Type} {n : String} {d : α} {f : World → α × World} {w : World}
    (h : (step n d f w).2.alive = true) : w.alive = true := by
  by_cases ha : w.alive = true
  · exact ha
  · rwa [step_dead (by simpa using ha)] at h

@[simp] theorem tick_fs (n : String) (w : World) : (tick n w).fs = w.fs := rfl
@[simp] theorem tick_env (n : String) (w : World) : (tick n w).env = w.env := rfl
@[simp] theorem tick_buf (n : String) (w : World) : (tick n w).buf = w.buf := rfl
@[simp] theorem tick_log (n : String) (w : World) : (tick n w).log = w.log := rfl
@[simp] theorem tick_steps (n : String) (w : World) : (tick n w).steps = w.steps + 1 := rfl

theorem tick_alive_nocrash (n : String) (w : World) (h : w.env.crashAt = none) : (tick n w).alive = true := by
  simp [tick, h]

@[simp] theorem FS.set_same (fs : FS) (p : Str) (v : Option Str) : (fs.set p v) p = v := by simp [FS.set]
theorem FS.set_ne {fs : FS} {p q : Str} {v : Option Str} (h : q ≠ p) : (fs.set p v) q = fs q := by simp [FS.set, h]
@[simp] theorem FS.append_same (fs : FS) (p : Str) (d : Str) : (fs.append p d) p = some ((fs p).getD [] ++ d) := by
  simp [FS.append]
theorem FS.append_ne {fs : FS} {p q : Str} {d : Str} (h : q ≠ p) : (fs.append p d) q = fs q := by
  simp [FS.append, FS.set_ne h]

/-- what file `p` holds once the run's writer is flushed: its content, then the bytes still in the `bufio.Writer`.  The
    writing steps are stated on it because how much of a write has reached the file (`Env.early`) drops out. -/
def pend (w : World) (p : Str) : Str := (w.fs p).getD [] ++ w.buf

theorem tick_pend (n : String) (w : World) (p : Str) : pend (tick n w) p = pend w p := rfl

section dead
variable (w : World) (h : w.alive = false)
include h
theorem cachedDumpFile_dead (b : Str) : cachedDumpFile b w = (([], .nil), w) := step_dead h
theorem osOpen_dead (p : Str) : osOpen p w = ((noFile, .nil), w) := step_dead h
theorem fileRead_dead (f : File) (b : Str) : fileRead f b w = ((0, .nil), b, w) := by rw [fileRead, step_dead h]
theorem fileClose_dead (f : File) : fileClose f w = (.nil, w) := step_dead h
theorem osCreateTemp_dead (d p : Str) : osCreateTemp d p w = ((noFile, .nil), w) := step_dead h
theorem osCreate_dead (p : Str) : osCreate p w = ((noFile, .nil), w) := step_dead h
theorem writeString_dead (o : Writer) (s : Str) : writeString o s w = ((0, .nil), w) := step_dead h
theorem cmdRun_dead (c : Cmd) : cmdRun c w = (.nil, w) := step_dead h
theorem flush_dead (o : Writer) : flush o w = (.nil, w) := step_dead h
theorem osRename_dead (a b : Str) : osRename a b w = (.nil, w) := step_dead h
theorem osRemove_dead (p : Str) : osRemove p w = (.nil, w) := step_dead h
theorem logPrintln_dead (a : List Str) : logPrintln a w = w := by rw [logPrintln, step_dead h]
end dead

structure Frame (w w' : World) : Prop where
  env : w'.env = w.env
  mono : w'.alive = true → w.alive = true
  nocrash : w.env.crashAt = none → w.alive = true → w'.alive = true
  dead : w.alive = false → w' = w

structure Keeps (p : Str) (w w' : World) : Prop extends Frame w w' where
  fs : w'.fs p = w.fs p

structure Quiet (w w' : World) : Prop extends Frame w w' where
  fs : w'.fs = w.fs
  buf : w'.buf = w.buf

theorem Frame.refl (w : World) : Frame w w := ⟨rfl, id, fun _ h => h, fun _ => rfl⟩

theorem Frame.trans {a b c : World} (h1 : Frame a b) (h2 : Frame b c) : Frame a c :=
  ⟨h2.env.trans h1.env, fun h => h1.mono (h2.mono h), fun hc ha => h2.nocrash (h1.env ▸ hc) (h1.nocrash hc ha),
   fun hd => by rw [h2.dead (by rw [h1.dead hd]; exact hd), h1.dead hd]⟩

theorem Keeps.trans {p : Str} {a b c : World} (h1 : Keeps p a b) (h2 : Keeps p b c) : Keeps p a c :=
  ⟨h1.toFrame.trans h2.toFrame, h2.fs.trans h1.fs⟩

theorem Quiet.trans {a b c : World} (h1 : Quiet a b) (h2 : Quiet b c) : Quiet a c :=
  ⟨h1.toFrame.trans h2.toFrame, h2.fs.trans h1.fs, h2.buf.trans h1.buf⟩

theorem Quiet.keeps {a b : World} (h : Quiet a b) (p : Str) : Keeps p a b := ⟨h.toFrame, congrFun h.fs p⟩

theorem Quiet.file {a b : World} (h : Quiet a b) {p : Str} {c : Option Str} (hp : a.alive = true → a.fs p = c)
    (hl : b.alive = true) : b.fs p = c := h.fs ▸ hp (h.mono hl)

theorem step_frame {α : Type} (n : String) (d : α) (f : World → α × World) (w : World)
    (hf : (f w).2.env = w.env) : Frame w (step n d f w).2 := by
  by_cases h : w.alive = true
  · rw [step_live h]
    exact ⟨hf, fun _ => h, fun hc _ => tick_alive_nocrash _ _ (hf ▸ hc), fun hd => by simp [h] at hd⟩
  · rw [step_dead (by simpa using h)]
    exact Frame.refl w

/-- The premise is one conjunction because of how the lemma is applied: after `apply step_keeps; split` every
    branch of the effect `f` is one goal, closed by one `exact ⟨_, _⟩` or `simp`. -/
theorem step_keeps {α : Type} (n : String) (d : α) (f : World → α × World) (w : World) (p : Str)
    (hf : (f w).2.env = w.env ∧ (f w).2.fs p = w.fs p) : Keeps p w (step n d f w).2 := by
  refine ⟨step_frame n d f w hf.1, ?_⟩
  unfold step; split <;> simp [hf.2]

theorem step_quiet {α : Type} (n : String) (d : α) (f : World → α × World) (w : World) (hf : (f w).2 = w) :
    Quiet w (step n d f w).2 := by
  refine ⟨step_frame n d f w (by simp [hf]), ?_, ?_⟩ <;> (unfold step; split <;> simp [hf])

theorem cachedDumpFile_quiet (b : Str) (w : World) : Quiet w (cachedDumpFile b w).2 := by
  unfold cachedDumpFile; apply step_quiet; split <;> rfl
theorem osOpen_quiet (p : Str) (w : World) : Quiet w (osOpen p w).2 := by
  unfold osOpen; apply step_quiet; split <;> rfl
theorem fileRead_quiet (f : File) (b : Str) (w : World) : Quiet w (fileRead f b w).2.2 := by
  unfold fileRead; apply step_quiet; split
  · rfl
  · dsimp only; split <;> rfl
theorem fileClose_quiet (f : File) (w : World) : Quiet w (fileClose f w).2 := by
  unfold fileClose; apply step_quiet; split <;> rfl

theorem osCreate_frame (p : Str) (w : World) : Frame w (osCreate p w).2 := by
  unfold osCreate; apply step_frame; split <;> simp
theorem osRemove_frame (p : Str) (w : World) : Frame w (osRemove p w).2 := by
  unfold osRemove; apply step_frame; split <;> simp

theorem osCreateTemp_keeps (d pat : Str) (w : World) (p : Str) (h : p ≠ d ++ [47] ++ pat ++ w.env.tmpSuffix) :
    Keeps p w (osCreateTemp d pat w).2 := by
  unfold osCreateTemp; apply step_keeps; dsimp only; split
  · simp
  · exact ⟨rfl, FS.set_ne h⟩
theorem pushThrough_env_fs (o : Writer) (s : Str) (w : World) (p : Str) (h : p ≠ o.file.name) :
    (pushThrough o s w).env = w.env ∧ (pushThrough o s w).fs p = w.fs p :=
  ⟨rfl, FS.append_ne h⟩
theorem writeString_keeps (o : Writer) (s : Str) (w : World) (p : Str) (h : p ≠ o.file.name) :
    Keeps p w (writeString o s w).2 := by
  unfold writeString; apply step_keeps; split <;> exact pushThrough_env_fs _ _ _ _ h
theorem emit_env_fs (c : Option Writer) (d : Str) (w : World) (p : Str) (h : ∀ o, c = some o → p ≠ o.file.name) :
    (emit c d w).env = w.env ∧ (emit c d w).fs p = w.fs p := by
  unfold emit; split
  · exact pushThrough_env_fs _ _ _ _ (h _ rfl)
  · simp
theorem cmdRun_keeps (c : Cmd) (w : World) (p : Str) (h : ∀ o, c.stdout = some o → p ≠ o.file.name) :
    Keeps p w (cmdRun c w).2 := by
  unfold cmdRun; apply step_keeps; split
  · simp
  · split  -- on what the tool does: nothing (`missing`), or it prints
    · simp
    · exact emit_env_fs _ _ _ _ h
    · exact emit_env_fs _ _ _ _ h
theorem flush_keeps (o : Writer) (w : World) (p : Str) (h : p ≠ o.file.name) : Keeps p w (flush o w).2 := by
  unfold flush; apply step_keeps; split <;> exact ⟨rfl, FS.append_ne h⟩
theorem osRename_keeps (a b : Str) (w : World) (p : Str) (ha : p ≠ a) (hb : p ≠ b) : Keeps p w (osRename a b w).2 := by
  unfold osRename; apply step_keeps; split
  · simp
  · split
    · simp
    · exact ⟨rfl, by simp [FS.set_ne ha, FS.set_ne hb]⟩
theorem osRemove_keeps (q : Str) (w : World) (p : Str) (h : p ≠ q) : Keeps p w (osRemove q w).2 := by
  unfold osRemove; apply step_keeps; split
  · simp
  · exact ⟨rfl, FS.set_ne h⟩
theorem logPrintln_keeps (a : List Str) (w : World) (p : Str) : Keeps p w (logPrintln a w) := by
  unfold logPrintln; apply step_keeps; simp
theorem logPrintln_frame (a : List Str) (w : World) : Frame w (logPrintln a w) := (logPrintln_keeps a w []).toFrame

theorem osRename_fs_ne (a b : Str) (w : World) (p : Str) (ha : p ≠ a) (hb : p ≠ b) : (osRename a b w).2.fs p = w.fs p :=
  (osRename_keeps a b w p ha hb).fs

theorem cachedDumpFile_ok (b : Str) (w : World) (ha : w.alive = true) (h : (cachedDumpFile b w).1.2 = .nil) :
    (cachedDumpFile b w).1.1 = w.env.dump := by
  rw [cachedDumpFile, step_live ha] at h ⊢
  split at h
  · cases h
  · rw [if_neg ‹_›]

theorem osOpen_ok (p : Str) (w : World) (ha : w.alive = true) (h : (osOpen p w).1.2 = .nil) :
    (osOpen p w).1.1 = ⟨p⟩ := by
  rw [osOpen, step_live ha] at h ⊢
  split at h
  · cases h
  · rw [if_neg ‹_›]

theorem fileRead_full (f : File) (b : Str) (w : World) (hb : b.length ≠ 0)
    (h1 : (fileRead f b w).1.2 = .nil) (h2 : (fileRead f b w).1.1 = b.length) :
    w.alive = true ∧ ∃ c, w.fs f.name = some c ∧ (fileRead f b w).2.1 = c.take b.length ∧ b.length ≤ c.length := by
  unfold fileRead at h1 h2 ⊢
  by_cases ha : w.alive = true
  case neg => rw [step_dead (by simpa using ha)] at h2; exact absurd h2.symm hb
  rw [step_live ha] at h1 h2 ⊢
  by_cases hf : w.faulty = true
  case pos => simp [hf] at h1
  simp only [hf, Bool.false_eq_true, if_false] at h1 h2 ⊢
  split at h1
  case isTrue => cases h1
  rw [if_neg ‹_›] at h2 ⊢
  cases hc : w.fs f.name with
  | none => simp [hc] at h2; exact absurd h2.symm hb
  | some c =>
    simp only [hc, Option.getD_some, List.length_take] at h2 ⊢
    exact ⟨ha, c, rfl, by rw [h2]; simp, by omega⟩

theorem fileRead_len (f : File) (b : Str) (w : World) : (fileRead f b w).2.1.length = b.length := by
  unfold fileRead
  by_cases ha : w.alive = true
  · rw [step_live ha]
    by_cases hf : w.faulty = true
    · simp [hf]
    · simp only [hf, Bool.false_eq_true, if_false]
      split
      · rfl
      · simp only [List.length_append, List.length_take, List.length_drop]; omega
  · rw [step_dead (by simpa using ha)]

theorem osCreateTemp_err (d pat : Str) (w : World) (h : (osCreateTemp d pat w).1.2 ≠ .nil) :
    (osCreateTemp d pat w).2.fs = w.fs := by
  unfold osCreateTemp at h ⊢
  by_cases ha : w.alive = true
  · rw [step_live ha] at h ⊢
    dsimp only at h ⊢
    split
    · rfl
    · rename_i hn; rw [if_neg hn] at h; simp at h
  · rw [step_dead (by simpa using ha)]

/-! The writing steps, in the form in which they compose along a run: *if* a live process has `c` in the
    file or on its way there (`pend`), *then* a process still alive after the step has … .  A process alive
    after a step was alive before it (`step_alive`), so no liveness has to be carried separately. -/

theorem osCreateTemp_ok (d pat : Str) (w : World) (ha : w.alive = true) (h : (osCreateTemp d pat w).1.2 = .nil) :
    (osCreateTemp d pat w).1.1 = ⟨d ++ [47] ++ pat ++ w.env.tmpSuffix⟩ ∧
    pend (osCreateTemp d pat w).2 (d ++ [47] ++ pat ++ w.env.tmpSuffix) = w.buf := by
  unfold osCreateTemp at h ⊢
  rw [step_live ha] at h ⊢
  dsimp only at h ⊢
  split
  · rename_i hn; rw [if_pos hn] at h; simp at h
  · simp [pend]

theorem pushThrough_pend (o : Writer) (s : Str) (w : World) :
    pend (pushThrough o s w) o.file.name = pend w o.file.name ++ s := by
  simp [pend, pushThrough, List.append_assoc]

theorem writeString_pend (o : Writer) (s : Str) (w : World) (c : Str) (hp : w.alive = true → pend w o.file.name = c)
    (hl : (writeString o s w).2.alive = true) : pend (writeString o s w).2 o.file.name = c ++ s := by
  unfold writeString at hl ⊢
  have ha := step_alive hl
  rw [step_live ha, ← hp ha]
  split <;> simp [tick_pend, pushThrough_pend]

theorem cmdRun_pend (cmd : Cmd) (o : Writer) (w : World) (c : Str) (hc : cmd.stdout = some o)
    (h : (cmdRun cmd w).1 = .nil) (hp : w.alive = true → pend w o.file.name = c)
    (hl : (cmdRun cmd w).2.alive = true) : pend (cmdRun cmd w).2 o.file.name = c ++ w.env.listing := by
  unfold cmdRun at h hl ⊢
  have ha := step_alive hl
  rw [step_live ha] at h ⊢
  rw [← hp ha]
  dsimp only at h ⊢
  split at h
  · simp at h
  · rename_i hn
    rw [if_neg hn]
    split at h
    · simp at h
    · simp at h
    · simp only [tick_pend, emit, hc, pushThrough_pend]

theorem flush_complete (o : Writer) (w : World) (c : Str) (h : (flush o w).1 = .nil)
    (hp : w.alive = true → pend w o.file.name = c) (hl : (flush o w).2.alive = true) :
    (flush o w).2.fs o.file.name = some c := by
  unfold flush at h hl ⊢
  have ha := step_alive hl
  rw [step_live ha] at h hl ⊢
  rw [← hp ha]
  by_cases hc : w.faulty = true ∨ w.dying = true
  · rw [if_pos hc] at h hl
    rcases hc with hc | hc
    · simp [hc] at h
    · -- a `Flush` during which the process is killed is not survived: `tick` leaves it dead, against `hl`
      simp [tick, World.dying] at hl hc
      exact absurd hc hl
  · rw [if_neg hc]
    simp [pend]

theorem osRename_target (a b : Str) (w : World) :
    (osRename a b w).2.fs b = if (osRename a b w).1 = .nil ∧ w.alive = true then w.fs a else w.fs b := by
  unfold osRename
  by_cases h : w.alive = true
  · rw [step_live h]
    simp only [tick_fs, h, and_true]
    split
    · simp
    · split
      · simp [‹a = b›]
      · simp [FS.set, Ne.symm ‹¬ a = b›]
  · rw [step_dead (by simpa using h)]; simp [h]

end Cache
