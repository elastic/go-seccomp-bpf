import Seccomp.Proofs.Lemmas.TableLemmas
import Seccomp.Gen.TableCodes
import Seccomp.Gen.Oracle
/-!
# Certificates for the regenerated tables (C12): definitions and lifting lemmas

`Certified`, with the lemmas that turn it into distinct names and agreement with an oracle source, and `walkF`,
the walk `agreeF` of a source against a sorted table with a count of the keys met.
-/

namespace Arch

def codesOf (t : Table) : List (Nat × Nat) := t.map (fun p => (enc p.2, p.1))

def sortedByName (n : String) : List (Nat × Nat) :=
  if n = "syscallsARM" then Gen.syscallsARM_sorted
  else if n = "syscallsAARCH64" then Gen.syscallsAARCH64_sorted
  else if n = "syscalls386" then Gen.syscalls386_sorted
  else if n = "syscallsX32" then Gen.syscallsX32_sorted
  else if n = "syscallsX86_64" then Gen.syscallsX86_64_sorted
  else []

/-- The walk of `agreeF`, counting the entries of `os` whose key occurs in `ts`.  The statement of
    `C12.oracle_overlap` speaks of `shared`; what is evaluated is `walkF`, which gives this number and the answer of
    `agreeF` in one walk. -/
def sharedF : Nat → List (Nat × Nat) → List (Nat × Nat) → Nat
  | _, [], _ => 0
  | _, _ :: _, [] => 0
  | 0, _ :: _, _ :: _ => 0
  | f + 1, t :: ts, o :: os =>
    if t.1 < o.1 then sharedF f ts (o :: os)
    else if o.1 < t.1 then sharedF f (t :: ts) os
    else 1 + sharedF f (t :: ts) os

def shared (s : Gen.Oracle.Source) : Nat :=
  let ts := sortedByName s.table
  sharedF (ts.length + s.entries.length + 1) ts s.entries

def walkF : Nat → List (Nat × Nat) → List (Nat × Nat) → Option Nat
  | _, [], _ => some 0
  | _, _ :: _, [] => some 0
  | 0, _ :: _, _ :: _ => none
  | f + 1, t :: ts, o :: os =>
    if t.1 < o.1 then walkF f ts (o :: os)
    else if o.1 < t.1 then walkF f (t :: ts) os
    else if t.2 == o.2 then (walkF f (t :: ts) os).map (1 + ·) else none

theorem walkF_some (f : Nat) (ts os : List (Nat × Nat)) (n : Nat) (h : walkF f ts os = some n) :
    agreeF f ts os = true ∧ sharedF f ts os = n := by
  fun_induction walkF f ts os generalizing n with
  | case1 => simp_all [agreeF, sharedF]
  | case2 => simp_all [agreeF, sharedF]
  | case3 => cases h
  | case4 f t ts o os h1 ih => simpa only [agreeF, sharedF, if_pos h1] using ih n h
  | case5 f t ts o os h1 h2 ih => simpa only [agreeF, sharedF, if_neg h1, if_pos h2] using ih n h
  | case6 f t ts o os h1 h2 h3 ih =>
    obtain ⟨m, hm, rfl⟩ := Option.map_eq_some_iff.mp h
    simp [agreeF, sharedF, h1, h2, h3, ih m hm]
  | case7 => cases h

def walk (s : Gen.Oracle.Source) : Option Nat :=
  let ts := sortedByName s.table
  walkF (ts.length + s.entries.length + 1) ts s.entries

theorem walk_some {s : Gen.Oracle.Source} {n : Nat} (h : walk s = some n)
    (hw : weakAsc (s.entries.map (·.1)) = true) :
    sortedAgree (sortedByName s.table) s.entries = true ∧ shared s = n := by
  obtain ⟨ha, hs⟩ := walkF_some _ _ _ n h
  exact ⟨by rw [sortedAgree, hw, ha]; rfl, hs⟩

/-- What C12 establishes about the table `t` stored in the Go variable `name`.  The kernel evaluates the coding
    and the sort (`C12.tables_coded`, `C12.codes_checked`); the `uniqueCheck` conjunct is not evaluated, it comes
    from `C12.table_numbers_unique` through `uniqueCheck_iff`, and no lemma reads it back: where distinct numbers
    are needed (`C12.lookup_inverse`), `table_numbers_unique` is used directly. -/
def Certified (name : String) (t : Table) : Prop :=
  ∃ codes sorted : List (Nat × Nat), codesOf t = codes ∧ msort (·.1) codes = sorted ∧
    strictAsc (sorted.map (·.1)) = true ∧ uniqueCheck (codes.map (·.2)) = true ∧
    sortedByName name = sorted

theorem Certified.names_nodup {name : String} {t : Table} (h : Certified name t) :
    (t.map (·.2)).Nodup := by
  obtain ⟨codes, sorted, hc, hs, ha, _, _⟩ := h
  have h1 : (sorted.map (·.1)).Nodup := strictAsc_nodup _ ha
  have hp : sorted.Perm codes := hs ▸ msort_perm (·.1) codes
  have h2 : (codes.map (·.1)).Nodup := (hp.map (·.1)).nodup_iff.mp h1
  rw [← hc, codesOf, List.map_map] at h2
  have h3 : ((t.map (·.2)).map enc).Nodup := by rw [List.map_map]; exact h2
  exact List.Pairwise.of_map enc (fun a b h e => h (congrArg enc e)) h3

theorem Certified.agrees {name : String} {t : Table} (h : Certified name t) (os : List (Nat × Nat))
    (hag : sortedAgree (sortedByName name) os = true) (nm : String) (nr : Nat)
    (hmem : (enc nm, nr) ∈ os) : nameToNr t nm = none ∨ nameToNr t nm = some nr := by
  obtain ⟨codes, sorted, hc, hs, ha, _, hb⟩ := h
  cases hn : nameToNr t nm with
  | none => exact .inl rfl
  | some m =>
    right
    have h1 : (m, nm) ∈ t := mem_of_nameToNr hn
    have h2 : (enc nm, m) ∈ codes := by
      rw [← hc, codesOf]; exact List.mem_map.mpr ⟨(m, nm), h1, rfl⟩
    have hp : sorted.Perm codes := hs ▸ msort_perm (·.1) codes
    have h3 : (enc nm, m) ∈ sorted := hp.mem_iff.mpr h2
    rw [hb] at hag
    have := sortedAgree_sound sorted os ha hag (enc nm, m) h3 (enc nm, nr) hmem rfl
    dsimp only at this
    rw [this]

end Arch
