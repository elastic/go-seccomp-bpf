import Seccomp.Proofs.Lemmas.AsmStep

/-!
# What the resolver lays out means what the label program means, and its skips fit 8 bits

Soundness is the invariant `AsmSim` of the reachable states: the code laid out so far behaves like the label program from
every registered destination and, after a whole token, from the front.  A raw `ja n` is followed through only over code
free of conditional jumps (`JaOkT`): the resolver puts no bridge in front of such code, so `n` instructions there are `n`
instructions laid out; over a conditional jump `n` would not count the bridges behind that jump.
-/

variable {L : Type} [DecidableEq L]

def PlainPrefixT : Nat → List (Tok L) → Prop
  | 0, _ => True
  | _+1, [] => True
  | k+1, .lab _ :: rest => PlainPrefixT (k+1) rest
  | k+1, .ins i :: rest => plain i = true ∧ PlainPrefixT k rest

omit [DecidableEq L] in
theorem plainPrefixT_zero (p : List (Tok L)) : PlainPrefixT 0 p := by
  unfold PlainPrefixT; trivial

def JaOkT : List (Tok L) → Prop
  | [] => True
  | .ins (.ja n) :: rest => PlainPrefixT n rest ∧ JaOkT rest
  | _ :: rest => JaOkT rest

omit [DecidableEq L] in
theorem JaOkT_tail (t : Tok L) (rest : List (Tok L)) (h : JaOkT (t :: rest)) : JaOkT rest :=
  match t, h with
  | .ins (.ja _), h => h.2
  | .lab _, h | .ins (.ld _), h | .ins (.ret _), h | .ins (.jif ..), h => h

structure AsmSim (w : Nat → Word) (b : Bool) (p : List (Tok L)) (s : St L) : Prop where
  code : b = true → ∀ k, PlainPrefixT k p → ∀ a, run w (s.out.drop k) a = runT w (dropIns k p) a
  dest : ∀ l d, s.get l = some d → ∀ a, run w (s.out.drop (s.out.length - d)) a = contAt w l p a

theorem drop_cons_sub {α : Type} (x : α) {l : List α} {d : Nat} (h : d ≤ l.length) :
    (x :: l).drop ((x :: l).length - d) = l.drop (l.length - d) := by
  rw [List.length_cons, show l.length + 1 - d = (l.length - d) + 1 by omega, List.drop_succ_cons]

theorem Bridge.run {out : List Instr} {d : Nat} {x : Instr} (h : Bridge out d x) (w : Nat → Word) (a : Word) :
    run w (x :: out) a = run w (out.drop (out.length - d)) a := by
  cases h with
  | ret hk =>
    obtain ⟨tl, htl⟩ := List.head?_eq_some_iff.1 hk
    rw [htl, run_ret, run_ret]
  | ja => rw [run_ja]

variable {w : Nat → Word} {b : Bool} {p : List (Tok L)} {s : St L}

theorem AsmSim.front (h : AsmSim w b p s) (hb : b = true) (a : Word) : run w s.out a = runT w p a := by
  simpa using h.code hb 0 (plainPrefixT_zero _) a

theorem AsmSim.code_lab (h : AsmSim w b p s) (hb : b = true) (l : L) :
    ∀ k, PlainPrefixT k (.lab l :: p) → ∀ a, run w (s.out.drop k) a = runT w (dropIns k (.lab l :: p)) a
  | 0, _, a => by rw [dropIns_zero, runT_lab]; exact h.front hb a
  | k+1, hk, a => h.code hb (k+1) hk a

theorem Emits.run {i : LInstr L} {x : Instr} (he : Emits b s i x) (h : AsmSim w b p s) (hja : JaOkT (.ins i :: p))
    (a : Word) : run w (x :: s.out) a = runT w (.ins i :: p) a := by
  cases he with
  | ld s off => rw [run_ld, runT_ld]; exact h.front rfl _
  | ret s k => rw [run_ret, runT_ret]
  | ja s n => rw [run_ja, runT_ja]; exact h.code rfl n hja.1 a
  | jif b c k hdt hdf =>
    rw [run_jif, runT_jif]
    split
    · exact h.dest _ _ hdt a
    · exact h.dest _ _ hdf a

theorem Emits.flag {i : LInstr L} {x : Instr} (he : Emits b s i x) (hp : plain i = true) : b = true := by
  cases he <;> first | rfl | cases hp

theorem AsmSim.push {i : LInstr L} {x : Instr} (h : AsmSim w b p s) (hle : DestLe s) (he : Emits b s i x)
    (hja : JaOkT (.ins i :: p)) : AsmSim w true (.ins i :: p) ⟨x :: s.out, s.dest⟩ where
  code _
    | 0, _, a => he.run h hja a
    | k+1, hk, a => h.code (he.flag hk.1) k hk.2 a
  dest l d hg a := by rw [contAt_cons_ins, drop_cons_sub x (hle l d hg)]; exact h.dest l d hg a

theorem Reach.sim (w : Nat → Word) (h : Reach b p s) (hja : JaOkT p) : AsmSim w b p s := by
  induction h with
  | nil => exact ⟨fun _ k _ a => by cases k <;> exact (run_nil w a).trans (runT_nil w a).symm, nofun⟩
  | skip l hr h0 ih =>
    refine ⟨fun _ => (ih hja).code_lab rfl l, fun l' d hg => ?_⟩
    -- nothing is laid out, so no label has a destination (`1 ≤ d ≤ 0`)
    have := hr.range hg; omega
  | lab l hr h0 ih =>
    refine ⟨fun _ => (ih hja).code_lab rfl l, fun l' d hg a => ?_⟩
    rcases St.get_cons_some hg with ⟨rfl, rfl⟩ | ⟨hne, hg⟩
    · simpa using (ih hja).front rfl a
    · rw [contAt_cons_lab_ne w l' l _ a hne.symm]; exact (ih hja).dest l' d hg a
  | ins hr he ih => exact (ih (JaOkT_tail _ _ hja)).push hr.destLe he hja
  | bridged l hr hg hx ih =>
    refine ⟨nofun, fun l' d' hg' a => ?_⟩
    rcases St.get_cons_some hg' with ⟨rfl, rfl⟩ | ⟨-, hg'⟩
    · simp only [List.length_cons, Nat.sub_self, List.drop_zero]
      exact (hx.run w a).trans ((ih hja).dest _ _ hg a)
    · rw [drop_cons_sub _ (hr.destLe _ _ hg')]; exact (ih hja).dest l' d' hg' a

theorem assemble_sound (prog : List (Tok L)) (out : List Instr) (hja : JaOkT prog)
    (h : assemble prog = .ok out) (w : Nat → Word) (a : Word) : run w out a = runT w prog a := by
  obtain ⟨s, hs, rfl⟩ := assemble_reach h
  exact (hs.sim w hja).front rfl a

#print axioms assemble_sound

/-- The skips of `Instr.jif` are `Nat`s where Go stores `uint8(len(out) - dest[…])` (assembler.go): `fits` says that
    the conversion loses nothing. -/
def fits : Instr → Bool
  | .jif _ _ jt jf => decide (jt ≤ 255) && decide (jf ≤ 255)
  | _ => true

theorem Reach.skips_fit (h : Reach b p s) : s.out.all fits = true := by
  induction h with
  | nil => rfl
  | skip _ _ _ ih | lab _ _ _ ih => exact ih
  | ins _ he ih =>
    rw [List.all_cons, ih, Bool.and_true]
    cases he with
    | ld | ret | ja => rfl
    | jif _ _ _ _ _ ht hf => simp [fits, ht, hf]
  | bridged _ _ _ hx ih =>
    rw [List.all_cons, ih, Bool.and_true]
    cases hx <;> rfl

theorem assemble_skips_fit (prog : List (Tok L)) (out : List Instr) (h : assemble prog = .ok out) :
    out.all fits = true := by
  obtain ⟨s, hs, rfl⟩ := assemble_reach h
  exact hs.skips_fit
#print axioms assemble_skips_fit

/-- both branches of the jump are far: 300 loads in between -/
def farProg : List (Tok Nat) :=
  [.ins (.ld 0), .ins (.jif .eq 1 10 20)] ++ (List.replicate 300 (.ins (.ld 4))) ++
  [.lab 20, .ins (.ret 222), .lab 10, .ins (.ret 111)]
#eval (assemble farProg).toOption.map (fun o => (o.length, o.take 5))
#eval (assemble farProg).toOption.map (fun o => (run (fun _ => 1) o 0, run (fun _ => 0) o 0))
