import Seccomp.Proofs.Lemmas.AsmSound
import Seccomp.Proofs.Lemmas.AsmComplete
import Seccomp.Proofs.Lemmas.AsmClosed
import Seccomp.Proofs.Lemmas.Rename
import Seccomp.Model.Lower
/-!
# C06 — the label/jump builder preserves jump targets at any distance

`assemble` is the model of `Program.Assemble` (assembler.go), `runT` the label-level meaning of a
builder call sequence, `run` the meaning of the resolved instruction list.  The builder stream of the
correspondence check compares `assemble` with the real `Program.Assemble` output for output.
-/

namespace C06

variable {L : Type} [DecidableEq L]

/-- A label program as the *public* builder can produce it: `NewLabel/SetLabel/JmpIf/JmpIfTrue/
    Ret/LdHi/LdLo` never append a raw unconditional jump. -/
def Public (p : List (Tok L)) : Prop := ∀ t ∈ p, ∀ n, t ≠ .ins (.ja n)

theorem jaOk_of_public : ∀ (p : List (Tok L)), Public p → JaOkT p
  | [], _ => trivial
  | t :: p, h => by
    have ih := jaOk_of_public p fun t ht => h t (List.mem_cons_of_mem _ ht)
    cases t with
    | lab l => exact ih
    | ins i =>
      cases i with
      | ja n => exact absurd rfl (h _ List.mem_cons_self n)
      | _ => exact ih

/-- **Soundness, any distance.**  Whenever `Assemble` succeeds, the instruction list behaves on every
    input exactly like the label program: same return value, same fall-through, however far the labels are
    and whatever bridges were inserted.  No well-formedness hypothesis: duplicate placements mean "nearest
    ahead" on both sides. -/
theorem assemble_sound (p : List (Tok L)) (out : List Instr) (hp : Public p)
    (h : assemble p = .ok out) (w : Nat → Word) (a : Word) : run w out a = runT w p a :=
  _root_.assemble_sound p out (jaOk_of_public p hp) h w a

/-- The same for programs that contain raw `ja n` (only the policy compiler appends those), as long as
    a raw jump skips no conditional jump. -/
theorem assemble_sound_raw (p : List (Tok L)) (out : List Instr) (hja : JaOkT p)
    (h : assemble p = .ok out) (w : Nat → Word) (a : Word) : run w out a = runT w p a :=
  _root_.assemble_sound p out hja h w a

/-- **Every emitted conditional jump fits the 8-bit skip fields** (so the `uint8` conversions in the
    Go code never truncate), whatever the distances in the label program were. -/
theorem assemble_skips_fit (p : List (Tok L)) (out : List Instr) (h : assemble p = .ok out) :
    ∀ i ∈ out, ∀ c k jt jf, i = .jif c k jt jf → jt ≤ 255 ∧ jf ≤ 255 :=
  fun i hi c k jt jf he => by simpa [he, fits] using List.all_eq_true.1 (_root_.assemble_skips_fit p out h) i hi

/-- **Completeness.**  On a program with forward jumps only (every jump label is placed ahead of the
    jump and in front of an instruction) `Assemble` either succeeds or reports a useless jump — it
    never reports a backward jump, whatever the distances are. -/
theorem assemble_complete (p : List (Tok L)) (hwf : WFT p) :
    (∃ out, assemble p = .ok out) ∨ assemble p = .error .useless := by
  rcases asm_complete p hwf with ⟨s, hs, _⟩ | he
  · exact .inl ⟨s.out, assemble_ok.2 ⟨s, hs, rfl⟩⟩
  · exact .inr (by simp [assemble, he, Except.map])

/-- **Completeness, strong form.**  If in addition every conditional jump has two *different* labels that
    are not both placed directly behind it, `Assemble` succeeds — whatever the distances, however many
    bridges are needed.  (The resolver reports a "useless jump" when both skips come out 0: both labels mark
    the very next instruction, or the two labels coincide and are more than 255 instructions away, so that the
    bridge for the one label is the very next instruction.) -/
theorem assemble_total (p : List (Tok L)) (hwf : WFT p) (hj : JifOk p) : ∃ out, assemble p = .ok out :=
  _root_.assemble_total p hwf hj

/-- What `Assemble` emits is closed: every jump lands inside the list or exactly at its end, so it can
    be followed by more code (the next group) without changing its meaning. -/
theorem assemble_closed (p : List (Tok L)) (out : List Instr) (hja : JaFit p)
    (h : assemble p = .ok out) : InBounds out :=
  assemble_inBounds p out hja h

/-! ### non-vacuity: both branches more than 255 instructions away, targets are returns / loads -/

def farProg : List (Tok Nat) :=
  [.ins (.ld 0), .ins (.jif .eq 1 10 20)] ++ (List.replicate 300 (.ins (.ld 4))) ++
  [.lab 20, .ins (.ret 222), .lab 10, .ins (.ret 111)]

theorem farProg_public : Public farProg := by
  intro t ht n
  simp only [farProg, List.cons_append, List.nil_append, List.mem_cons, List.mem_append,
    List.mem_replicate, List.not_mem_nil, or_false] at ht
  rcases ht with h | h | ⟨_, h⟩ | h | h | h | h <;> subst h <;> simp

/-- `assemble_sound` applies to a real bridge case -/
theorem farProg_assembles : (assemble farProg).toOption.isSome = true := by decide +kernel

/-- distance exactly 255 needs no bridge, 256 does: the emitted program grows by one instruction -/
def distProg (d : Nat) : List (Tok Nat) :=
  [.ins (.jif .eq 1 7 8), .lab 8] ++ (List.replicate d (.ins (.ld 4))) ++ [.lab 7, .ins (.ld 0), .ins (.ret 5)]

theorem dist255_no_bridge : ((assemble (distProg 255)).toOption.map List.length) = some 258 := by decide +kernel
theorem dist256_bridge : ((assemble (distProg 256)).toOption.map List.length) = some 260 := by decide +kernel

/-- **The resolver cannot see label names**: the assembled instruction list (or the error) is the same for
    every naming of the labels under which the labels the program mentions stay distinct. -/
theorem label_names_irrelevant {M : Type} [DecidableEq M] (f : L → M) (p : List (Tok L))
    (hf : InjOn f (mentioned p)) : assemble (renameToks f p) = assemble p :=
  assemble_rename f p hf

/-- … and neither can the label-level meaning, on any input. -/
theorem label_meaning_names_irrelevant {M : Type} [DecidableEq M] (f : L → M) (p : List (Tok L))
    (hf : InjOn f (mentioned p)) (w : Nat → Word) (a : Word) : runT w (renameToks f p) a = runT w p a :=
  runT_rename w f (mentioned p) hf p.length p (Nat.le_refl _) (fun _ h => h) a

/-- For the policy compiler: whatever integers `NewLabel` hands out for the labels of a group program — as long
    as different labels get different integers — `Program.Assemble` yields the program the model computes from
    its structured labels. -/
theorem group_program_any_numbering (ly : Layout) (ents : List Entry) (r : Word) (num : PL → Nat)
    (hnum : InjOn num (mentioned (groupToks ly ents r))) :
    assemble (renameToks num (groupToks ly ents r)) = assemble (groupToks ly ents r) :=
  assemble_rename num _ hnum

/-- non-vacuity: a two-label program under a renaming that is injective on its labels only (`0, 1 ↦ 10, 11`,
    everything else collapses), and one that identifies its two labels — which does change the result -/
def renProg : List (Tok Nat) := [.ins (.jif .eq 1#32 0 1), .lab 1, .ins (.ret 5#32), .lab 0, .ins (.ret 7#32)]

theorem rename_example :
    (assemble (renameToks (fun l => if l ≤ 1 then l + 10 else 0) renProg)).toOption = (assemble renProg).toOption ∧
    (assemble renProg).toOption = some [.jif .eq 1#32 1 0, .ret 5#32, .ret 7#32] ∧
    (assemble (renameToks (fun _ => 3) renProg)).toOption ≠ (assemble renProg).toOption := by decide +kernel

/-! non-vacuity of `group_program_any_numbering`: a numbering of the structured labels (Cantor pairing, one residue
    class per constructor) that keeps the labels of a concrete group program distinct -/

def pairN (a b : Nat) : Nat := (a + b) * (a + b + 1) / 2 + b

def plCode : PL → Nat
  | .action => 0
  | .nextSys e => 6 * e + 1
  | .afterNr e => 6 * e + 2
  | .noMatch e l => 6 * pairN e l + 3
  | .nextArg e l c => 6 * pairN (pairN e l) c + 4
  | .nextIns e l c j => 6 * pairN (pairN (pairN e l) c) j + 5

instance {M : Type} [DecidableEq M] (f : PL → M) (S : List PL) : Decidable (InjOn f S) := by
  unfold InjOn; infer_instance

def numProg : List (Tok PL) :=
  groupToks { hiOff := fun i => 16 + 8 * i + 4, loOff := fun i => 16 + 8 * i }
    [.uncond 1#32, .cond 2#32 [[⟨0, .eq, 5#64⟩, ⟨1, .gt, 7#64⟩]]] 0x7fff0000#32

theorem numbering_example :
    InjOn plCode (mentioned numProg) ∧ 10 < (mentioned numProg).length ∧
    (assemble (renameToks plCode numProg)).toOption = (assemble numProg).toOption := by decide +kernel

end C06
