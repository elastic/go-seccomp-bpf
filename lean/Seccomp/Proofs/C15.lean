import Seccomp.Gen.SandboxSkeleton
/-!
# C15 — the sandbox command runs its target only under the loaded policy  (partial)

Theorems about `Gen.sandboxMain`, the rendering of `main` of cmd/sandbox that `vextract` regenerates on
every run, for every world: every outcome of reading the policy file, every answer of `LoadFilter`,
every target command.  What a nil result of `LoadFilter` means is C09; that the loaded filter decides
as the policy says is C01/C08; that a child image started by `exec` inherits the filter is kernel
behaviour (assumed; exercised by the live runs of the built binary).
-/

namespace C15

/-- **Tie to the specification used by the live runs**: the regenerated `main` does exactly what
    `SandboxSpec.main` does, for every world and every behaviour of untranslated statements. -/
theorem translator_tie (U : SUnsupported) (w : SWorld) : Gen.sandboxMain U w = SandboxSpec.main w := by
  first
  | rfl
  | -- an equivalent arrangement of the same steps: by cases on every outcome the world can produce
    (unfold Gen.sandboxMain SandboxSpec.main
     simp only [parsePolicyS, loadFilterS, cmdRun, execCommand]
     obtain ⟨args, nnp, parseOk, loadOk, runOk, events⟩ := w
     cases args <;> cases parseOk <;> cases loadOk <;> cases runOk <;> simp)

/-- the translator rendered every statement of `main` -/
theorem skeleton_complete : Gen.sandboxNotes = [] := rfl

theorem main_of_loaded {w : SWorld} (ha : w.args.length ≠ 0) (hp : w.parseOk = true) (hl : w.loadOk = true) :
    SandboxSpec.main w = (if w.runOk then .returned else .exit 1,
      { w with events := .targetStarted :: .loadCalled w.noNewPrivsFlag 1 true :: .parsed true :: w.events }) := by
  unfold SandboxSpec.main
  simp only [parsePolicyS, loadFilterS, cmdRun, if_neg ha, hp, hl]
  cases w.runOk <;> rfl

/-- when everything succeeds the target runs and the command's status is the target's -/
theorem success_runs_target (U : SUnsupported) (w : SWorld) (ha : w.args.length ≠ 0)
    (hp : w.parseOk = true) (hl : w.loadOk = true) :
    SEvent.targetStarted ∈ (Gen.sandboxMain U w).2.events ∧
    (Gen.sandboxMain U w).1 = (if w.runOk then .returned else .exit 1) := by
  rw [translator_tie, main_of_loaded ha hp hl]
  exact ⟨List.mem_cons_self, rfl⟩

/-- **Every failure before exec exits non-zero without running the target**: no command given, policy
    file not parsed (missing, malformed, unknown action …), filter not installed (unknown syscall,
    kernel refusal — `LoadFilter` reports these as errors by C07/C09). -/
theorem failure_exits_nonzero (U : SUnsupported) (w : SWorld) (hw : w.events = [])
    (hf : w.args.length = 0 ∨ w.parseOk = false ∨ w.loadOk = false) :
    (Gen.sandboxMain U w).1 = .exit 1 ∧ SEvent.targetStarted ∉ (Gen.sandboxMain U w).2.events := by
  rw [translator_tie]
  unfold SandboxSpec.main
  simp only [parsePolicyS, loadFilterS, cmdRun, hw]
  by_cases ha : w.args.length = 0
  · simp [ha, hw]
  · rcases hf with h | h | h
    · exact absurd h ha
    · simp [ha, h]
    · cases w.parseOk <;> simp [ha, h]

/-- **The target is started only after the policy file was parsed and the filter installed**, in this
    order, and thread-sync with the requested no_new_privs setting is what was asked of `LoadFilter`. -/
theorem exec_only_after_load (U : SUnsupported) (w : SWorld) (hw : w.events = [])
    (h : SEvent.targetStarted ∈ (Gen.sandboxMain U w).2.events) :
    w.parseOk = true ∧ w.loadOk = true ∧
    (Gen.sandboxMain U w).2.events = [.targetStarted, .loadCalled w.noNewPrivsFlag 1 true, .parsed true] := by
  -- the target was started, so none of the failures of `failure_exits_nonzero` occurred
  have ok : ¬ (w.args.length = 0 ∨ w.parseOk = false ∨ w.loadOk = false) :=
    fun hf => (failure_exits_nonzero U w hw hf).2 h
  simp only [not_or, Bool.not_eq_false] at ok
  rw [translator_tie, main_of_loaded ok.1 ok.2.1 ok.2.2, hw]
  exact ⟨ok.2.1, ok.2.2, rfl⟩

/-- the policy is read through the documented configuration path (go-ucfg YAML file, then Unpack) -/
theorem config_path : Gen.parsePolicyCalls = ["yaml.NewConfigWithFile", "conf.Unpack"] := rfl

def goodRun : SWorld := { args := ["/bin/true"], noNewPrivsFlag := true, parseOk := true, loadOk := true, runOk := true }
def badPolicy : SWorld := { goodRun with parseOk := false }

theorem goodRun_example : (Gen.sandboxMain ⟨fun _ w => w⟩ goodRun).1 = .returned ∧
    SEvent.targetStarted ∈ (Gen.sandboxMain ⟨fun _ w => w⟩ goodRun).2.events := by decide +kernel
theorem badPolicy_example : (Gen.sandboxMain ⟨fun _ w => w⟩ badPolicy).1 = .exit 1 := by decide +kernel

end C15
