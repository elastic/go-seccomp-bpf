import Seccomp.Gen.Consts
import Seccomp.Gen.Tables
import Seccomp.Gen.GetInfo
import Seccomp.Gen.Oracle
import Seccomp.Model.Policy
import Seccomp.Model.Lower
import Seccomp.Model.Spec
import Seccomp.Proofs.C07
import Seccomp.Proofs.Lemmas.TableLemmas
/-!
# C19 — constants and stubs are consistent across build targets

> On every operating system and CPU target for which the library builds, the action, filter-flag,
> errno and prctl constants it exposes are numerically identical to the Linux kernel's UAPI values,
> so a policy compiles to the same program wherever it is compiled for a given syscall table.  On
> non-Linux targets the loader stubs report seccomp as unsupported and perform no system calls, and
> on targets without syscall tables compilation fails with an unsupported-architecture error rather
> than producing a filter.

Everything here is a statement about `Gen.targets` (`Gen/Consts.lean`), which `vextract` regenerates
on every run by loading and type-checking the module under each GOOS/GOARCH of the target list
(`go tool dist list` in the thorough tier, a cross-section in the quick tier): one row per target with
the value the Go type checker computes for every constant, the files the build context selects, and the
shape of the three loader entry points.  The oracle `Gen.uapi` is printed by a C program compiled against
the installed kernel headers; it never passes through Go source.
-/

namespace C19
open Gen

/-- a build context that satisfies the constraint `linux` (GOOS=android implies it) -/
def isLinux (t : Target) : Bool := t.goos == "linux" || t.goos == "android"

/-- the MIPS ports of Linux, the only Go targets whose kernel numbers errno values differently -/
def isMipsLinux (t : Target) : Bool :=
  isLinux t && (t.goarch == "mips" || t.goarch == "mipsle" || t.goarch == "mips64" || t.goarch == "mips64le")

/-- **Hand-written oracle row** (the only one).  `arch/mips/include/uapi/asm/errno.h` of the kernel:
    `#define ENOSYS 89 /* Function not implemented */`.  No MIPS kernel headers are installed in this
    sandbox, so the value cannot be printed by the C oracle; it is also the value of
    `syscall.ENOSYS` in Go's `zerrors_linux_mips{,le,64,64le}.go`.  Every other Linux port that Go
    supports (386, amd64, arm, arm64, loong64, ppc64, ppc64le, riscv64, s390x) uses
    `asm-generic/errno.h`, i.e. the value the C oracle prints on this host. -/
def mipsENOSYS : Nat := 89

/-- `ENOSYS` of the kernel the target's binaries run on; for non-Linux targets (no such kernel) the
    generic Linux value, which is what a filter for one of the four table architectures needs -/
def kernelENOSYS (t : Target) : Option Nat :=
  if isMipsLinux t then some mipsENOSYS else uapi.lookup "ENOSYS"

/-- UAPI name (also the name in `internal/unix`) ↦ the constant of the root package defined from it -/
def pairing : List (String × String) := [
  ("SECCOMP_RET_KILL_THREAD", "ActionKillThread"),
  ("SECCOMP_RET_KILL_PROCESS", "ActionKillProcess"),
  ("SECCOMP_RET_TRAP", "ActionTrap"),
  ("SECCOMP_RET_ERRNO", "ActionErrno"),
  ("SECCOMP_RET_TRACE", "ActionTrace"),
  ("SECCOMP_RET_LOG", "ActionLog"),
  ("SECCOMP_RET_ALLOW", "ActionAllow"),
  ("SECCOMP_RET_USER_NOTIF", "ActionUserNotify"),
  ("SECCOMP_FILTER_FLAG_TSYNC", "FilterFlagTSync"),
  ("SECCOMP_FILTER_FLAG_LOG", "FilterFlagLog"),
  ("PR_SET_NO_NEW_PRIVS", "prSetNoNewPrivs"),
  ("SECCOMP_SET_MODE_STRICT", "seccompSetModeStrict"),
  ("SECCOMP_SET_MODE_FILTER", "seccompSetModeFilter"),
  ("EPERM", "errnoEPERM")]

/-- layout of `struct seccomp_data` and the x32 bit: (what the C oracle printed, constant of the root package) -/
def layoutPairing : List (String × String) := [
  ("offsetof_nr", "syscallNumOffset"),
  ("offsetof_arch", "archOffset"),
  ("offsetof_args", "argumentOffset"),
  ("sizeof_arg", "sizeOfUint64"),
  ("sizeof_nr", "sizeOfUint32"),
  ("__X32_SYSCALL_BIT", "x32SyscallMask")]

/-- the constants that can enter a compiled program; the x32 bit as package arch defines it
    (`arch.X32.SeccompMask`) -/
def programConsts (t : Target) : List (Option Nat) :=
  (["ActionKillThread", "ActionKillProcess", "ActionTrap", "ActionErrno", "ActionTrace", "ActionLog",
    "ActionAllow", "ActionUserNotify", "errnoEPERM", "errnoENOSYS", "syscallNumOffset", "archOffset",
    "argumentOffset", "sizeOfUint32", "sizeOfUint64"].map (fun n => t.root.lookup n)) ++ [t.arch.lookup "x32SyscallMask"]

/-- the same list without `errnoENOSYS` -/
def programConstsButENOSYS (t : Target) : List (Option Nat) :=
  (["ActionKillThread", "ActionKillProcess", "ActionTrap", "ActionErrno", "ActionTrace", "ActionLog",
    "ActionAllow", "ActionUserNotify", "errnoEPERM", "syscallNumOffset", "archOffset",
    "argumentOffset", "sizeOfUint32", "sizeOfUint64"].map (fun n => t.root.lookup n)) ++ [t.arch.lookup "x32SyscallMask"]

def entryPoints : List String := ["Supported", "SetNoNewPrivs", "LoadFilter"]

/-- `len(arch.SyscallNames) == 0` is false for the `Info` variable `v`: its row builds `SyscallNames`
    by `invert(<table>)` from a table with at least one entry -/
def rowHasTable (v : String) : Bool :=
  match archRows.find? (fun r => r.var == v) with
  | some r => r.names != "" && (tableSizes.lookup r.names).getD 0 != 0
  | none => false

/-- `arch.GetInfo("")` on a target whose `runtime.GOARCH` is `g` returns an error, read off the data:
    `g` is no key of `arches`, or its row has no table.  That the function regenerated from the source
    (`Gen.getInfoSkel`) answers so on every target is the first conjunct of `unsupported_arch_errors`. -/
def getInfoDefaultErrors (g : String) : Bool :=
  match arches.lookup g with
  | none => true
  | some v => !rowHasTable v

/-- Every target of the list was loaded and every library (non-`main`) package of the module
    type-checks under it, so none of the statements below is vacuous for any target.  (The two
    commands need cgo linking on android/386, android/amd64, android/arm and ios/*; that is a
    restriction of the toolchain for `main` packages, recorded per package in `Target.pkgs`.) -/
theorem library_builds_on_every_target :
    ∀ t ∈ targets, t.loaded = true ∧ t.libBuilds = true ∧
      ∀ p ∈ t.pkgs, p.main = false → p.ok = true := by
  decide +kernel

/-- the list contains the host, Linux ports with and without tables, a MIPS port and non-Linux systems -/
theorem targets_cover :
    14 ≤ targets.length ∧ t_linux_amd64 ∈ targets ∧
    (∃ t ∈ targets, isMipsLinux t = true) ∧
    (∃ t ∈ targets, isLinux t = true ∧ isMipsLinux t = false ∧ getInfoDefaultErrors t.goarch = true) ∧
    4 ≤ (targets.filter (fun t => !isLinux t)).length ∧
    (∃ t ∈ targets, isLinux t = false ∧ getInfoDefaultErrors t.goarch = true) := by
  -- membership by position: deciding it would compare whole rows field by field
  refine ⟨by decide +kernel, by simp [targets], ?_⟩
  decide +kernel

/-- the per-target columns `archKey`/`archTable` written by the translator are what the regenerated
    `arches` map and `Info` rows of `Gen/Tables.lean` say -/
theorem goarch_columns_consistent :
    ∀ t ∈ targets, t.archKey = (arches.lookup t.goarch).isSome ∧
      t.archTable = !getInfoDefaultErrors t.goarch ∧
      (t.archKey = true → arches.lookup t.goarch = some t.archVar) := by
  decide +kernel

/-- so a statement about `getInfoDefaultErrors t.goarch` for every target of the list may be evaluated on
    `!t.archTable`, without the tables (`simp +contextual` takes the `t ∈ targets` this needs from the statement's
    own binder) -/
theorem defaultErrors_eq_not_archTable : ∀ t ∈ targets, getInfoDefaultErrors t.goarch = !t.archTable :=
  fun t ht => by rw [(goarch_columns_consistent t ht).2.1, Bool.not_not]

def ConstsEqualUapi (t : Target) : Prop :=
  (∀ p ∈ pairing, (uapi.lookup p.1).isSome = true ∧
      t.unix.lookup p.1 = uapi.lookup p.1 ∧ t.root.lookup p.2 = uapi.lookup p.1) ∧
  (kernelENOSYS t).isSome = true ∧
  t.unix.lookup "ENOSYS" = kernelENOSYS t ∧ t.root.lookup "errnoENOSYS" = kernelENOSYS t ∧
  t.nonNat = []

instance (t : Target) : Decidable (ConstsEqualUapi t) := by unfold ConstsEqualUapi; infer_instance

/-- **Constants equal the kernel's UAPI values on every target.**  For every target of the list on
    which the library builds: each of the eight actions, the two filter flags, the prctl option, the
    two `seccomp(2)` operations and `EPERM` has — both in `internal/unix` (taken from x/sys/unix on
    Linux, from the hand-maintained copy elsewhere) and in the root package's `constants.go` — exactly
    the value the installed kernel headers give; `ENOSYS` has the value of the target's kernel
    (38 = the header value; 89 on linux/mips*); and no constant of these packages is negative or
    non-integer. -/
theorem consts_equal_uapi : ∀ t ∈ targets, t.libBuilds = true → ConstsEqualUapi t := by
  -- the lookups are made on the codes of the names (`Arch.lookup_enc`): nearly every comparison here is between two
  -- names with a long common prefix (`SECCOMP_RET_…`), which costs the kernel more than coding each name once
  simp only [ConstsEqualUapi, kernelENOSYS, ← Arch.lookup_enc]
  decide +kernel

/-- the statement discriminates: the darwin row with `SECCOMP_RET_TRAP` changed in the hand-maintained
    copy only (so that it differs from Linux) does not satisfy it, nor does one with MIPS' `ENOSYS` -/
example : ¬ ConstsEqualUapi { t_darwin_arm64 with
    unix := t_darwin_arm64.unix.map (fun p => if p.1 = "SECCOMP_RET_TRAP" then (p.1, 0x20000) else p) } :=
  fun h => absurd (h.1 ("SECCOMP_RET_TRAP", "ActionTrap") (by simp [pairing])).2.1 (by decide +kernel)
example : ¬ ConstsEqualUapi { t_darwin_arm64 with
    root := t_darwin_arm64.root.map (fun p => if p.1 = "errnoENOSYS" then (p.1, 89) else p) } :=
  fun h => absurd h.2.2.2.1 (by decide +kernel)
/-- … while 89 is exactly what is required of (and found on) linux/mips -/
example : ConstsEqualUapi t_linux_mips ∧ t_linux_mips.root.lookup "errnoENOSYS" = some 89 :=
  ⟨consts_equal_uapi _ (by simp [targets]) rfl, by decide +kernel⟩

/-- The record offsets and sizes the compiler uses are those of `struct seccomp_data` in
    `linux/seccomp.h` (`offsetof`/`sizeof` evaluated by the C compiler) and the x32 bit is
    `__X32_SYSCALL_BIT` of `asm/unistd.h` — on every target (so `unsafe.Sizeof` did not vary). -/
theorem layout_equals_uapi :
    ∀ t ∈ targets, t.libBuilds = true →
      (∀ p ∈ layoutPairing, (uapi.lookup p.1).isSome = true ∧ t.root.lookup p.2 = uapi.lookup p.1) ∧
      t.arch.lookup "x32SyscallMask" = uapi.lookup "__X32_SYSCALL_BIT" := by
  decide +kernel

/-- the header values themselves are the well-known ones (guards against a broken oracle run) -/
theorem uapi_sane :
    uapi.lookup "SECCOMP_RET_ALLOW" = some 0x7fff0000 ∧ uapi.lookup "SECCOMP_RET_ERRNO" = some 0x50000 ∧
    uapi.lookup "SECCOMP_RET_KILL_PROCESS" = some 0x80000000 ∧ uapi.lookup "SECCOMP_RET_KILL_THREAD" = some 0 ∧
    uapi.lookup "SECCOMP_FILTER_FLAG_TSYNC" = some 1 ∧ uapi.lookup "SECCOMP_FILTER_FLAG_LOG" = some 2 ∧
    uapi.lookup "PR_SET_NO_NEW_PRIVS" = some 38 ∧ uapi.lookup "EPERM" = some 1 ∧ uapi.lookup "ENOSYS" = some 38 := by
  decide +kernel

theorem program_consts_as_host :
    ∀ t ∈ targets, isMipsLinux t = false → programConsts t = programConsts t_linux_amd64 := by
  decide +kernel

/-- **Same program everywhere.**  All constants that enter a compiled program — the actions, `EPERM`,
    `ENOSYS`, the x32 bit, the offsets and sizes — are equal on every pair of non-MIPS targets, so the
    compiler (a function of the policy, the table and these constants) emits the same program for a
    given syscall table wherever it is compiled. -/
theorem same_program_everywhere :
    ∀ t₁ ∈ targets, ∀ t₂ ∈ targets, isMipsLinux t₁ = false → isMipsLinux t₂ = false →
      programConsts t₁ = programConsts t₂ := fun t₁ h₁ t₂ h₂ m₁ m₂ =>
  (program_consts_as_host t₁ h₁ m₁).trans (program_consts_as_host t₂ h₂ m₂).symm

/-- On the MIPS ports the only program constant that differs is `ENOSYS` (the kernel's own 89) … -/
theorem mips_differs_only_in_enosys :
    ∀ t ∈ targets, programConstsButENOSYS t = programConstsButENOSYS t_linux_amd64 := by
  decide +kernel

/-- … and it cannot reach a program: `ENOSYS` is only emitted in the x32 guard of a policy for the
    x86_64 table, the architecture of a policy is always `GetInfo("")` (filter.go), and on every
    target whose `ENOSYS` is not the generic value `GetInfo("")` is an error.  So no two targets can
    compile different programs for one table. -/
theorem enosys_deviation_unreachable :
    ∀ t ∈ targets, t.root.lookup "errnoENOSYS" ≠ t_linux_amd64.root.lookup "errnoENOSYS" →
      getInfoDefaultErrors t.goarch = true := by
  simp +contextual only [defaultErrors_eq_not_archTable]
  decide +kernel

/-- What the file needs of the macro list `uapiAll`, with names compared through their codes (`Arch.enc`); coding
    the names of the list is the dear part, so both facts come from one evaluation. -/
theorem uapiAll_coded :
    (∀ t ∈ targets, ∀ kv ∈ t.unix, ∀ u ∈ uapiAll, Arch.enc u.1 = Arch.enc kv.1 → u.2 = kv.2) ∧
    ∀ p ∈ pairing, p.1 ≠ "EPERM" →
      ((uapiAll.map fun u => (Arch.enc u.1, u.2)).lookup (Arch.enc p.1)).isSome = true := by
  decide +kernel

/-- **Every constant of `internal/unix` that bears the name of a kernel macro has the kernel's value, on every
    target**, whatever constants the package declares: each is compared with the macro of the same name among
    all object-like `SECCOMP_*` / `PR_*` macros of the installed
    linux/seccomp.h and linux/prctl.h (`Gen.uapiAll`, found with `gcc -dM -E` and evaluated by a C program).
    A constant added later (an alias such as `SECCOMP_RET_KILL`, a new flag) is covered without touching the
    pairing list above.  (`ENOSYS`/`EPERM` are errno values and handled by `consts_equal_uapi`.) -/
theorem same_named_constants_equal_uapi :
    ∀ t ∈ targets, ∀ kv ∈ t.unix, ∀ u ∈ uapiAll, u.1 = kv.1 → u.2 = kv.2 :=
  fun t ht kv hkv u hu e => uapiAll_coded.1 t ht kv hkv u hu (congrArg Arch.enc e)

/-- non-vacuity: the macro list is not a handful of names, and it contains the constants the package uses -/
theorem uapiAll_covers :
    100 ≤ uapiAll.length ∧
    ∀ p ∈ pairing, p.1 ≠ "EPERM" → (uapiAll.lookup p.1).isSome = true := by
  refine ⟨by decide +kernel, fun p hp hne => ?_⟩
  rw [← Arch.lookup_enc]
  exact uapiAll_coded.2 p hp hne

/-- **The constants hard-wired in the executable model are those of the source.**  `actKillThread` …
    `actAllow`, `errnoEPERM` and `auditArchX86_64` of `Model/Policy.lean`, `Spec.enosys`
    (= `ActionErrno | errnoENOSYS`), `enosys` and `x32Bit` of `Model/Lower.lean` equal the regenerated
    linux/amd64 row (and `auditArchX86_64` the regenerated `zarches.go` constant). -/
theorem model_consts_agree :
    t_linux_amd64.root.lookup "ActionKillThread" = some actKillThread.toNat ∧
    t_linux_amd64.root.lookup "ActionKillProcess" = some actKillProcess.toNat ∧
    t_linux_amd64.root.lookup "ActionTrap" = some actTrap.toNat ∧
    t_linux_amd64.root.lookup "ActionErrno" = some actErrno.toNat ∧
    t_linux_amd64.root.lookup "ActionTrace" = some actTrace.toNat ∧
    t_linux_amd64.root.lookup "ActionLog" = some actLog.toNat ∧
    t_linux_amd64.root.lookup "ActionAllow" = some actAllow.toNat ∧
    t_linux_amd64.root.lookup "errnoEPERM" = some errnoEPERM.toNat ∧
    auditConsts.lookup "auditArchX86_64" = some auditArchX86_64.toNat ∧
    (t_linux_amd64.root.lookup "ActionErrno").bind
        (fun a => (t_linux_amd64.root.lookup "errnoENOSYS").map (fun e => a ||| e)) = some Spec.enosys.toNat ∧
    Spec.enosys = enosys ∧
    t_linux_amd64.arch.lookup "x32SyscallMask" = some x32Bit.toNat ∧
    (archRows.find? (fun r => r.var == "X32")).map (fun r => r.mask) = some x32Bit.toNat := by
  decide +kernel

/-- The offsets the model's compiler emits are the source's: the architecture word is loaded from
    `archOffset`, the number from `syscallNumOffset`, argument `i` from
    `argumentOffset + sizeOfUint64 * i` (+ `sizeOfUint32` for the other half, by byte order). -/
theorem model_offsets_agree :
    ∃ ao no ar s64 s32,
      t_linux_amd64.root.lookup "archOffset" = some ao ∧
      t_linux_amd64.root.lookup "syscallNumOffset" = some no ∧
      t_linux_amd64.root.lookup "argumentOffset" = some ar ∧
      t_linux_amd64.root.lookup "sizeOfUint64" = some s64 ∧
      t_linux_amd64.root.lookup "sizeOfUint32" = some s32 ∧
      (∀ (a : ArchI) (body : List Instr), (policyProg a body).head? = some (.ld ao) ∧ .ld no ∈ policyProg a body) ∧
      (∀ i, (Layout.ofEndian .little).loOff i = ar + s64 * i ∧ (Layout.ofEndian .little).hiOff i = ar + s64 * i + s32 ∧
            (Layout.ofEndian .big).hiOff i = ar + s64 * i ∧ (Layout.ofEndian .big).loOff i = ar + s64 * i + s32) := by
  refine ⟨4, 0, 16, 8, 4, ?_⟩
  -- the five lookups are grouped into one conjunct and decided by one evaluation: each evaluation decodes the names
  -- of the row afresh
  rw [← and_assoc, ← and_assoc, ← and_assoc, ← and_assoc]
  refine ⟨by decide +kernel, fun a body => ⟨by simp [policyProg], ?_⟩, fun i => by simp [Layout.ofEndian]⟩
  simp only [policyProg]
  split <;> simp

def StubsInert (t : Target) : Prop :=
  "seccomp_unsupported.go" ∈ t.files ∧ "seccomp_linux.go" ∉ t.files ∧
  (∀ n ∈ entryPoints, ∃ f ∈ t.funcs, f.name = n ∧ f.file = "seccomp_unsupported.go" ∧ f.hasCall = false) ∧
  (∃ f ∈ t.funcs, f.name = "Supported" ∧ f.ret = "false") ∧
  t.stubOtherDecls = [] ∧ t.stubImports = []

instance (t : Target) : Decidable (StubsInert t) := by unfold StubsInert; infer_instance

/-- **Stubs are inert.**  Every non-Linux target selects `seccomp_unsupported.go` and not
    `seccomp_linux.go`; `Supported`, `SetNoNewPrivs` and `LoadFilter` are defined there; none of the
    three bodies contains a call expression (no function or method call, conversion, `go` or `defer`),
    so no system call can be made; `Supported` is `return false` (the constant the type checker
    computes); and the file declares nothing else (no `init`, no initialised variable that could run
    code at start-up) and imports nothing. -/
theorem stubs_inert : ∀ t ∈ targets, isLinux t = false → StubsInert t := by
  decide +kernel

/-- the statement discriminates: a `Supported` stub returning `true`, or a `LoadFilter` stub that calls
    something, does not satisfy it -/
example : ¬ StubsInert { t_darwin_arm64 with
    funcs := t_darwin_arm64.funcs.map (fun f => if f.name = "Supported" then { f with ret := "true" } else f) } := by
  decide +kernel
example : ¬ StubsInert { t_darwin_arm64 with
    funcs := t_darwin_arm64.funcs.map (fun f => if f.name = "LoadFilter" then { f with hasCall := true } else f) } := by
  decide +kernel

/-- **Linux selects the real loader.**  Every Linux target (GOOS linux or android) selects
    `seccomp_linux.go` and not the stub file, and the three entry points are the ones defined there
    (each of them does call something). -/
theorem linux_selects_real_loader :
    ∀ t ∈ targets, isLinux t = true →
      "seccomp_linux.go" ∈ t.files ∧ "seccomp_unsupported.go" ∉ t.files ∧
      (∀ n ∈ entryPoints, ∃ f ∈ t.funcs, f.name = n ∧ f.file = "seccomp_linux.go" ∧ f.hasCall = true) := by
  decide +kernel

/-- each entry point is declared exactly once under every target (the two files never overlap) -/
theorem entry_points_unique :
    ∀ t ∈ targets, t.funcs.map (fun f => f.name) = entryPoints ∧ ∀ f ∈ t.funcs, f.file ≠ "" := by
  decide +kernel

/-- **Unsupported architectures error.**  On every target of the list, the rendering of `GetInfo`
    regenerated from the source (`Gen.getInfoSkel`, with `runtime.GOARCH` = the target's GOARCH and the
    empty name, as `Policy.Assemble` calls it) returns an error exactly when the data say so
    (`getInfoDefaultErrors`); and for every GOARCH of the target list that is no key of `arches`
    (loong64, riscv64, wasm) or whose row has no table (ppc64, ppc64le, s390x, mips, mipsle, mips64,
    mips64le) that is the case. -/
theorem unsupported_arch_errors :
    (∀ t ∈ targets, (match Gen.getInfoSkel t.goarch "" with | .err _ => true | _ => false) =
        getInfoDefaultErrors t.goarch) ∧
    ∀ t ∈ targets, (t.archKey = false ∨ t.archTable = false) → getInfoDefaultErrors t.goarch = true := by
  decide +kernel

/-- the kernel's audit architecture of a Linux port, by GOARCH (hand-written: names of linux/audit.h) -/
def auditMacroOfGoarch : List (String × String) := [
  ("amd64", "AUDIT_ARCH_X86_64"), ("386", "AUDIT_ARCH_I386"), ("arm", "AUDIT_ARCH_ARM"), ("arm64", "AUDIT_ARCH_AARCH64"),
  ("riscv64", "AUDIT_ARCH_RISCV64"), ("loong64", "AUDIT_ARCH_LOONGARCH64"), ("ppc64", "AUDIT_ARCH_PPC64"),
  ("ppc64le", "AUDIT_ARCH_PPC64LE"), ("s390x", "AUDIT_ARCH_S390X"), ("mips", "AUDIT_ARCH_MIPS"), ("mipsle", "AUDIT_ARCH_MIPSEL"),
  ("mips64", "AUDIT_ARCH_MIPS64"), ("mips64le", "AUDIT_ARCH_MIPSEL64")]

/-- where `GetInfo("")` resolves on a target, the resolved row carries the kernel's audit identifier of
    *that* port (as far as the list above names one and the C compiler evaluated linux/audit.h) -/
def resolvesToOwnArch (g : String) : Bool :=
  getInfoDefaultErrors g ||
    match arches.lookup g, auditMacroOfGoarch.lookup g with
    | some v, some m =>
      (match archRows.find? (fun r => r.var == v), Oracle.auditArch.lookup m with
       | some r, some k => r.id == k
       | _, none => !Oracle.auditAvailable
       | none, _ => false)
    | some _, none => true     -- a port the list does not name: no statement
    | none, _ => true

/-- **A filter is only produced for the target's own architecture**: a GOARCH that resolves to the row
    of another architecture (an alias such as riscv64 → aarch64, "same generic table") would compile
    policies whose architecture test never matches on that kernel, instead of the unsupported-architecture
    error the property demands for targets without tables of their own. -/
theorem resolved_arch_is_the_targets_own : ∀ t ∈ targets, resolvesToOwnArch t.goarch = true := by
  -- whether `GetInfo("")` errors is read off the column; the lookups are made on the codes of the names
  -- (`Arch.lookup_enc`): the dear one is among the `AUDIT_ARCH_…` names of the oracle
  simp +contextual only [resolvesToOwnArch, defaultErrors_eq_not_archTable, ← Arch.lookup_enc]
  decide +kernel

/-- non-vacuity: the four table ports are named by the list and the oracle knows their macros -/
example : (["amd64", "386", "arm", "arm64"].all fun g =>
    (auditMacroOfGoarch.lookup g).isSome && !getInfoDefaultErrors g) = true := by decide +kernel

/-- conversely the four table architectures resolve on their targets, to the row of that name -/
theorem supported_arch_resolves :
    ∀ t ∈ targets, (t.goarch = "amd64" ∨ t.goarch = "386" ∨ t.goarch = "arm" ∨ t.goarch = "arm64") →
      getInfoDefaultErrors t.goarch = false := by
  simp +contextual only [defaultErrors_eq_not_archTable]
  decide +kernel

/-- **… rather than producing a filter.**  `Policy.Assemble` obtains its architecture from
    `GetInfo("")` only and returns that error; in the model this is `assemblePolicy none`, which is
    an error for every policy and layout (`C07.defective_rejected`). -/
theorem unsupported_arch_no_filter :
    ∀ t ∈ targets, getInfoDefaultErrors t.goarch = true →
      ∀ (ly : Layout) (p : Policy), ∃ e, assemblePolicy none ly p = .error e :=
  fun _ _ _ ly p => C07.defective_rejected ly none p (.noTables p)

end C19
