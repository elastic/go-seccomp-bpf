import Seccomp.Proofs.Lemmas.TableCert
import Seccomp.Gen.GetInfo
/-!
# C12 — syscall tables and architecture metadata are correct and unambiguous

*For every supported architecture, name-to-number and number-to-name lookups are mutual inverses (no
name has two numbers, so lookups are deterministic), every number agrees with independent sources
for that ABI (kernel UAPI headers, Go's syscall tables) wherever they list the syscall, and each
audit-architecture identifier equals the kernel's AUDIT_ARCH constant.  Architecture aliases
(amd64/x86_64, 386/i386, arm64/aarch64, x32; any letter case) resolve to the same table, and
architectures without tables are reported as unsupported.*

All data comes from files regenerated from `/repo` on every run: `Gen.Tables` (the five tables, the
`Info` rows, the alias map, the audit constants, the generator's ABI literals), `Gen.GetInfo` (the
body of `GetInfo`), `Gen.TableCodes` (the same tables with Nat-coded names) and `Gen.Oracle` (kernel
headers evaluated by the C compiler, Go's `syscall`, three versions of `golang.org/x/sys`, the
installed libseccomp).
The finite facts are closed statements decided by the Lean kernel and lifted by the lemmas of
`Lemmas/TableLemmas.lean` and `Lemmas/TableCert.lean`.  When `/repo`'s tables change so that a fact becomes
false, its theorem stops checking and `bin/check C12` searches the regenerated JSON for the entry that broke
it (bin/c12hook.py).  The model of `invert`, the lookups and `GetInfo` is `Model/Arch.lean`.

What is written by hand in this file, i.e. the *specification* side, is: which five tables exist
(`tables`), which alias is expected to name which Linux architecture (`expectedAliases`), which
architectures have a table (`expectedTable`), which kernel constant belongs to which architecture
(`kernelAuditName`), and the literal ABI column values of `syscall_64.tbl`.
-/

namespace C12
open Arch

/-- the five tables of `arch/zsyscalls.go`, by the name of their Go variable -/
def tables : List (String × Table) := [
  ("syscallsARM", Gen.syscallsARM),
  ("syscallsAARCH64", Gen.syscallsAARCH64),
  ("syscalls386", Gen.syscalls386),
  ("syscallsX32", Gen.syscallsX32),
  ("syscallsX86_64", Gen.syscallsX86_64)]

/-- `tables` lists exactly the `syscalls*` map literals found in the package, in source order: a sixth
    table in `/repo` breaks this instead of staying unchecked -/
theorem tables_complete : tables.map (·.1) = Gen.tableNames := by decide +kernel

theorem tableOf_tables : ∀ nt ∈ tables, tableOf nt.1 = nt.2 := by
  intro nt h
  simp only [tables, List.mem_cons, List.not_mem_nil, or_false] at h
  rcases h with rfl | rfl | rfl | rfl | rfl <;> simp [tableOf]

/-- one evaluation for all five tables: the kernel computes the code of a name that several tables hold once -/
theorem tables_coded : tables.map (fun nt => (nt.1, codesOf nt.2)) = Gen.tableCodes := by
  decide +kernel

/-- the generated by-name list is compared with the merge sort computed here: nothing is trusted about the
    translator's sorting -/
theorem codes_checked : ∀ nc ∈ Gen.tableCodes, msort (·.1) nc.2 = sortedByName nc.1 ∧
    strictAsc ((sortedByName nc.1).map (·.1)) = true := by
  decide +kernel

/-- **No number occurs twice** in any of the five tables.  `zsyscalls.go` is generated in ascending order of
    numbers, so this is read off the listing; a table listed in any other order is sorted first. -/
theorem table_numbers_unique : ∀ nt ∈ tables, (nt.2.map (·.1)).Nodup := by
  first
  | have h : ∀ nt ∈ tables, strictAsc (nt.2.map (·.1)) = true := by decide +kernel
    exact fun nt hnt => strictAsc_nodup _ (h nt hnt)
  | have h : ∀ nt ∈ tables, uniqueCheck (nt.2.map (·.1)) = true := by decide +kernel
    exact fun nt hnt => (uniqueCheck_iff _).1 (h nt hnt)

theorem tables_certified : ∀ nt ∈ tables, Certified nt.1 nt.2 := by
  intro nt h
  have hm : (nt.1, codesOf nt.2) ∈ Gen.tableCodes := tables_coded ▸ List.mem_map_of_mem h
  obtain ⟨h1, h2⟩ := codes_checked _ hm
  refine ⟨_, _, rfl, h1, h2, (uniqueCheck_iff _).2 ?_, rfl⟩
  rw [codesOf, List.map_map]
  exact table_numbers_unique nt h

/-- **No name has two numbers**: in each of the five tables the names are pairwise distinct.  The pinned tree
    violated this for x32 (36 names, e.g. `execve` = 59 and 520). -/
theorem table_names_unique : ∀ nt ∈ tables, (nt.2.map (·.2)).Nodup :=
  fun nt h => (tables_certified nt h).names_nodup

/-- so a code in an oracle list denotes exactly one name -/
theorem name_code_injective : ∀ s t : String, enc s = enc t → s = t := enc_inj

/-- **Mutual inverses** on every table (both sides mean: `(nr, name)` is an entry). -/
theorem lookup_inverse : ∀ nt ∈ tables, ∀ (name : String) (nr : Nat),
    nameToNr nt.2 name = some nr ↔ nrToName nt.2 nr = some name := by
  intro nt h name nr
  rw [nameToNr_eq_some_iff nt.2 (table_names_unique nt h),
      nrToName_eq_some_iff nt.2 (table_numbers_unique nt h)]

/-- non-vacuity of `lookup_inverse` -/
theorem lookup_finds_every_entry : ∀ nt ∈ tables, ∀ p ∈ nt.2,
    nameToNr nt.2 p.2 = some p.1 ∧ nrToName nt.2 p.1 = some p.2 :=
  fun nt h p hp =>
    ⟨(nameToNr_eq_some_iff nt.2 (table_names_unique nt h) p.2 p.1).mpr hp,
     (nrToName_eq_some_iff nt.2 (table_numbers_unique nt h) p.1 p.2).mpr hp⟩

theorem invert_order_independent (l₁ l₂ : Table) (hp : l₁.Perm l₂) (hnd : (l₁.map (·.2)).Nodup) :
    invert l₁ = invert l₂ :=
  (invert_perm hp.symm hnd).symm

/-- **Lookups are deterministic**: for each of the five tables, `invert` run with any iteration order of the Go
    map (any permutation `order` of the entries) yields the same name → number map, the first-match lookup. -/
theorem invert_deterministic : ∀ nt ∈ tables, ∀ order : Table, order.Perm nt.2 →
    invert order = nameToNr nt.2 :=
  fun nt h _ hp => invert_eq_nameToNr hp (table_names_unique nt h)

/-- the distinctness hypothesis is necessary: the pinned x32 table contained both `59: "execve"` and
    `520: "execve"`, and the two iteration orders of these entries invert differently -/
theorem invert_ambiguous_without_distinct_names :
    ∃ l₁ l₂ : Table, l₁.Perm l₂ ∧ invert l₁ "execve" = some 520 ∧ invert l₂ "execve" = some 59 :=
  ⟨[(59, "execve"), (520, "execve")], [(520, "execve"), (59, "execve")],
   List.Perm.swap _ _ _, by decide, by decide⟩

/-- justifies `Arch.namesEmpty` for `len(arch.SyscallNames) == 0` in `GetInfo`: an inverted map is empty exactly
    when the literal is -/
theorem inverted_map_empty_iff (t order : Table) (hp : order.Perm t) :
    (∀ x, invert order x = none) ↔ t = [] := by
  simp only [invert_eq_last, nameToNr_none_iff, List.mem_reverse]
  refine ⟨fun h => ?_, fun h x p hm => ?_⟩
  · cases t with
    | nil => rfl
    | cons p t => exact absurd rfl (h p.2 p (hp.mem_iff.mpr List.mem_cons_self))
  · subst h; rw [List.perm_nil.mp hp] at hm; cases hm

theorem oracle_sources_name_tables : ∀ s ∈ Gen.Oracle.sources, s.table ∈ tables.map (·.1) := by
  decide +kernel

/-- one merge walk per source against the sorted table of its ABI; 250 is a bound under the smallest source,
    Go's frozen `syscall` package for arm64 with its 268 names -/
theorem oracle_walks : ∀ s ∈ Gen.Oracle.sources, weakAsc (s.entries.map (·.1)) = true ∧
    ((walk s).any fun n => !s.available || decide (250 ≤ n)) = true := by
  decide +kernel

/-- **Every number agrees with every independent source for that ABI, wherever the source lists the
    syscall**: for each source `s` (kernel `unistd_64.h`, `unistd_32.h`, `unistd_x32.h` — numbers
    without `__X32_SYSCALL_BIT` —, `asm-generic/unistd.h` evaluated for arm64, Go's `syscall` and three
    versions of `x/sys` for 386, amd64, arm, arm64, the installed libseccomp's resolver for all five ABIs) and
    every name it lists (identified by its code `enc name`), the table of that ABI either does not know the name
    or gives the same number. -/
theorem table_agrees_with_oracles : ∀ s ∈ Gen.Oracle.sources, ∀ nt ∈ tables, nt.1 = s.table →
    ∀ (name : String) (nr : Nat), (enc name, nr) ∈ s.entries →
      nameToNr nt.2 name = none ∨ nameToNr nt.2 name = some nr := by
  intro s hs nt hnt htab name nr hmem
  obtain ⟨hw, hany⟩ := oracle_walks s hs
  obtain ⟨n, hn, _⟩ := (Option.any_eq_true _ _).mp hany
  exact (tables_certified nt hnt).agrees s.entries (htab ▸ (walk_some hn hw).1) name nr hmem

/-- non-vacuity: every available source shares at least 250 names with its table … -/
theorem oracle_overlap : ∀ s ∈ Gen.Oracle.sources, s.available = true → 250 ≤ shared s := by
  intro s hs hav
  obtain ⟨hw, hany⟩ := oracle_walks s hs
  obtain ⟨n, hn, hc⟩ := (Option.any_eq_true _ _).mp hany
  rw [(walk_some hn hw).2]
  simpa [hav] using hc

/-- … and every table has an available source -/
theorem oracle_sources_present : ∀ nt ∈ tables,
    ∃ s ∈ Gen.Oracle.sources, s.table = nt.1 ∧ s.available = true := by
  decide +kernel

/-- spot checks on well-known entries: the translator's name coding is `Arch.enc`, and the sources say what one
    expects -/
theorem oracle_examples :
    (enc "openat", 257) ∈ Gen.Oracle.src_uapi_asm_unistd_64_h ∧
    (enc "execve", 59) ∈ Gen.Oracle.src_uapi_asm_unistd_64_h ∧
    (enc "execve", 520) ∈ Gen.Oracle.src_uapi_asm_unistd_x32_h ∧
    (enc "openat", 257) ∈ Gen.Oracle.src_uapi_asm_unistd_x32_h ∧
    (enc "openat", 295) ∈ Gen.Oracle.src_uapi_asm_unistd_32_h ∧
    (enc "openat", 56) ∈ Gen.Oracle.src_uapi_asm_generic_unistd_h_arm64_ ∧
    (enc "openat", 322) ∈ Gen.Oracle.src_go_syscall_arm ∧
    (enc "pread64", 17) ∈ Gen.Oracle.src_go_syscall_amd64 ∧
    (enc "_sysctl", 149) ∈ Gen.Oracle.src_xsys_v0_48_0_386 := by
  decide +kernel

/-- which `AUDIT_ARCH_*` constant of `linux/audit.h` belongs to which `Info.Name`
    (x32 is the x86-64 architecture with `__X32_SYSCALL_BIT` in the number) -/
def kernelAuditName : List (String × String) := [
  ("arm", "AUDIT_ARCH_ARM"), ("aarch64", "AUDIT_ARCH_AARCH64"), ("i386", "AUDIT_ARCH_I386"),
  ("x32", "AUDIT_ARCH_X86_64"), ("x86_64", "AUDIT_ARCH_X86_64"),
  ("ppc", "AUDIT_ARCH_PPC"), ("ppc64", "AUDIT_ARCH_PPC64"), ("ppc64le", "AUDIT_ARCH_PPC64LE"),
  ("s390", "AUDIT_ARCH_S390"), ("s390x", "AUDIT_ARCH_S390X"),
  ("mips", "AUDIT_ARCH_MIPS"), ("mipsel", "AUDIT_ARCH_MIPSEL"), ("mips64", "AUDIT_ARCH_MIPS64"),
  ("mips64n32", "AUDIT_ARCH_MIPS64N32"), ("mipsel64", "AUDIT_ARCH_MIPSEL64"),
  ("mipsel64n32", "AUDIT_ARCH_MIPSEL64N32")]

/-- `auditArchFOO` ↦ `AUDIT_ARCH_FOO` -/
def kernelConstName (goName : String) : String :=
  "AUDIT_ARCH_" ++ String.ofList (goName.toList.drop "auditArch".length)

/-- **Each `Info.ID` equals the kernel's `AUDIT_ARCH_*` constant of the same architecture**, as
    evaluated from `linux/audit.h` + `linux/elf-em.h` by the C compiler. -/
theorem audit_ids_equal_kernel : ∀ r ∈ Gen.archRows,
    (List.lookup r.name kernelAuditName).bind (fun k => List.lookup k Gen.Oracle.auditArch) = some r.id := by
  -- the `AUDIT_ARCH_…` names are compared by their codes, see `Arch.lookup_enc`
  simp only [← lookup_enc]
  decide +kernel

/-- the same for the whole constant block of `zarches.go` (also the constants that no `Info` uses) -/
theorem audit_consts_equal_kernel : ∀ c ∈ Gen.auditConsts,
    Gen.Oracle.auditArch.lookup (kernelConstName c.1) = some c.2 := by
  simp only [← lookup_enc]
  decide +kernel

/-- `SeccompMask` is `__X32_SYSCALL_BIT` on X32 and absent everywhere else -/
theorem x32_mask : (∀ r ∈ Gen.archRows, r.mask = if r.name = "x32" then 0x40000000 else 0) ∧
    (∃ r ∈ Gen.archRows, r.name = "x32") := by
  decide +kernel

/-- every value of the alias map is a declared `Info` variable (anything else does not compile) -/
theorem alias_values_are_rows : ∀ kv ∈ Gen.arches, (rowOfVar kv.2).isSome = true := by
  decide +kernel

theorem lookup_is_row {key v : String} (h : Gen.arches.lookup key = some v) : ∃ r, rowOfVar v = some r := by
  obtain ⟨l₁, l₂, e, _⟩ := List.lookup_eq_some_iff.1 h
  exact Option.isSome_iff_exists.1 (alias_values_are_rows (key, v) (e ▸ by simp))

theorem getInfo_nonempty (goarch s : String) (hs : s ≠ "") : getInfo goarch s = resolve (lower s) := by
  unfold getInfo
  rw [if_neg hs]

theorem getInfo_empty (goarch : String) : getInfo goarch "" = resolve goarch := by
  unfold getInfo
  rw [if_pos rfl]

/-- both sides of the tie make the same lookup, the rendering's `arches[key]` and the reference's `resolve key`;
    when it finds a row only the emptiness of that row's table is left to decide -/
theorem lookupArch_resolve (key : String) :
    (lookupArch key = (none, false) ∧ resolve key = .error (.unsupported key)) ∨
    ∃ r, lookupArch key = (some r, true) ∧
      resolve key = if (tableOf r.names).isEmpty then .error (.unsupported key) else .ok r := by
  unfold lookupArch resolve
  cases h : Gen.arches.lookup key with
  | none => exact .inl ⟨rfl, rfl⟩
  | some v =>
    obtain ⟨r, hr⟩ := lookup_is_row h
    exact .inr ⟨r, by simp [hr, namesEmpty]⟩

/-- **Translator tie, `GetInfo`.**  The rendering of the function body regenerated from arch/info.go
    (`Gen.getInfoSkel`: its statements over map lookup, lower-casing, `len`, Go's short-circuit
    operators, with a nil dereference as an explicit outcome) returns, for every `GOARCH` and every
    name, exactly what the hand-written reference `Arch.getInfo` returns — in particular it never
    panics and contains no statement outside the translated subset.  By cases on what the two possible keys
    find in the alias map and on whether the row's table is empty, not on how the source arranges its tests,
    so an equivalent arrangement proves the same way. -/
theorem getinfo_tie (goarch name : String) :
    Gen.getInfoSkel goarch name = toRes (getInfo goarch name) := by
  unfold Gen.getInfoSkel
  -- one simp set for all four cases, holding every connective a guard may be written with: `andS`
  -- serves `found && len(…) > 0`, which the present source does not use (hence "unused" warnings)
  by_cases hn : name = ""
  · rw [hn, getInfo_empty]
    rcases lookupArch_resolve goarch with ⟨hl, hr⟩ | ⟨r, hl, hr⟩
    · simp [hl, hr, ite3, orS, andS, notS, cmpS, lenNames, toRes]
    · cases ht : tableOf r.names <;>
        simp [hl, hr, ht, ite3, orS, andS, notS, cmpS, lenNames, toRes]
  · rw [getInfo_nonempty goarch name hn]
    rcases lookupArch_resolve (lower name) with ⟨hl, hr⟩ | ⟨r, hl, hr⟩
    · simp [hn, hl, hr, ite3, orS, andS, notS, cmpS, lenNames, toRes]
    · cases ht : tableOf r.names <;>
        simp [hn, hl, hr, ht, ite3, orS, andS, notS, cmpS, lenNames, toRes]

/-- the translator rendered every statement of `GetInfo` -/
theorem getinfo_rendered : Gen.getInfoNotes = [] := by decide

/-- key of `arches` ↦ `Info.Name` it must resolve to -/
def expectedAliases : List (String × String) := [
  ("arm", "arm"), ("ppc", "ppc"), ("ppc64", "ppc64"), ("ppc64le", "ppc64le"), ("s390", "s390"),
  ("s390x", "s390x"), ("mips", "mips"), ("mipsle", "mipsel"), ("mips64", "mips64"),
  ("i386", "i386"), ("386", "i386"),
  ("x32", "x32"), ("x86_64", "x86_64"), ("amd64", "x86_64"),
  ("aarch64", "aarch64"), ("arm64", "aarch64"),
  ("mips64n32", "mips64n32"), ("mips64p32", "mips64n32"),
  ("mipsel64", "mipsel64"), ("mips64le", "mipsel64"),
  ("mipsel64n32", "mipsel64n32"), ("mips64p32le", "mipsel64n32")]

/-- `Info.Name` ↦ Go variable of its syscall table, for the architectures that have one -/
def expectedTable : List (String × String) := [
  ("arm", "syscallsARM"), ("aarch64", "syscallsAARCH64"), ("i386", "syscalls386"),
  ("x32", "syscallsX32"), ("x86_64", "syscallsX86_64")]

/-- **Any letter case**: spellings that lower-case to the same string get the same answer. -/
theorem getInfo_case_insensitive (goarch s t : String) (hs : s ≠ "") (ht : t ≠ "")
    (h : lower s = lower t) : getInfo goarch s = getInfo goarch t := by
  rw [getInfo_nonempty goarch s hs, getInfo_nonempty goarch t ht, h]

/-- every key of `arches` is already lower case, so it is a spelling of itself; mixed-case / İ / K spellings
    lower-case as `strings.ToLower` does -/
theorem lower_examples : (∀ kv ∈ Gen.arches, lower kv.1 = kv.1) ∧
    lower "AMD64" = "amd64" ∧ lower "X86_64" = "x86_64" ∧ lower "Arm64" = "arm64" ∧
    lower "aArCh64" = "aarch64" ∧ lower "I386" = "i386" ∧ lower "X32" = "x32" ∧
    lower "MİPS" = "mips" ∧ lower "K" = "k" ∧ lower "é" = "é" := by
  decide +kernel

/-- the alias map has exactly the expected keys (so every alias is covered by `aliases_resolve` or
    `tableless_arch_unsupported`), and the aliases the property names are among them -/
theorem alias_keys_expected :
    (∀ kv ∈ Gen.arches, (expectedAliases.lookup kv.1).isSome = true) ∧
    (∀ kn ∈ expectedAliases, (Gen.arches.lookup kn.1).isSome = true) ∧
    (∀ k ∈ ["amd64", "x86_64", "386", "i386", "arm64", "aarch64", "x32", "arm"],
      ((List.lookup k expectedAliases).bind (fun n => List.lookup n expectedTable)).isSome = true) := by
  decide +kernel

/-- rows with a table use one literal for both directions (`SyscallNumbers: t`, `SyscallNames: invert(t)`), the
    table of that architecture, and it is not empty; the other rows have neither field -/
theorem rows_tables : ∀ r ∈ Gen.archRows,
    r.table = r.names ∧ r.names = (List.lookup r.name expectedTable).getD "" ∧
    (r.names ≠ "" → (tableOf r.names).isEmpty = false) := by
  decide +kernel

def resolvesTo (k n tbl : String) : Bool :=
  match resolve k with
  | .ok r => r.name == n && r.table == tbl && r.names == tbl
  | .error _ => false

def resolveFails (k : String) : Bool :=
  match resolve k with
  | .ok _ => false
  | .error e => e == Err.unsupported k

def resolvesAsExpected (kn : String × String) : Bool :=
  match List.lookup kn.2 expectedTable with
  | some tbl => resolvesTo kn.1 kn.2 tbl
  | none => resolveFails kn.1

theorem resolve_expected : ∀ kn ∈ expectedAliases, resolvesAsExpected kn = true := by
  decide +kernel

/-- **Aliases resolve to the same table, in any letter case**: for every key `k` of `arches` whose
    architecture `n` has a table (`arm`; `i386`/`386`; `x32`; `x86_64`/`amd64`; `aarch64`/`arm64`)
    and every spelling `s` that lower-cases to `k`, `GetInfo(s)` succeeds with the `Info` whose
    `Name` is `n` and whose two maps come from that architecture's table — whatever `GOARCH` is. -/
theorem aliases_resolve : ∀ kn ∈ expectedAliases, ∀ tbl, expectedTable.lookup kn.2 = some tbl →
    ∀ (goarch s : String), s ≠ "" → lower s = kn.1 →
      ∃ r, getInfo goarch s = .ok r ∧ r.name = kn.2 ∧ r.table = tbl ∧ r.names = tbl := by
  intro kn hkn tbl htbl goarch s hs hl
  have h := resolve_expected kn hkn
  simp only [resolvesAsExpected, htbl, resolvesTo] at h
  rw [getInfo_nonempty goarch s hs, hl]
  split at h
  · rename_i r hr
    simp only [Bool.and_eq_true, beq_iff_eq] at h
    exact ⟨r, hr, h.1.1, h.1.2, h.2⟩
  · cases h

/-- the pairs named by the property, spelled out -/
theorem alias_pairs (goarch : String) :
    getInfo goarch "amd64" = getInfo goarch "x86_64" ∧
    (getInfo goarch "amd64").toOption.map (·.names) = some "syscallsX86_64" ∧
    getInfo goarch "386" = getInfo goarch "i386" ∧
    (getInfo goarch "386").toOption.map (·.names) = some "syscalls386" ∧
    getInfo goarch "arm64" = getInfo goarch "aarch64" ∧
    (getInfo goarch "arm64").toOption.map (·.names) = some "syscallsAARCH64" ∧
    getInfo goarch "x32" = getInfo goarch "X32" ∧
    (getInfo goarch "x32").toOption.map (fun r => (r.names, r.mask)) = some ("syscallsX32", 0x40000000) := by
  simp only [getInfo, String.reduceEq, if_false]
  decide +kernel

/-- **Architectures without tables are unsupported**: for every key of `arches` whose `Info` has no
    `SyscallNames` (ppc, ppc64, ppc64le, s390, s390x, mips, mipsle, mips64, mips64n32/p32,
    mipsel64/mips64le, mipsel64n32/mips64p32le) `GetInfo` returns the error, in any letter case. -/
theorem tableless_arch_unsupported : ∀ kv ∈ Gen.arches, ∀ r, rowOfVar kv.2 = some r → r.names = "" →
    ∀ (goarch s : String), s ≠ "" → lower s = kv.1 →
      getInfo goarch s = .error (.unsupported kv.1) := by
  have key : ∀ kv ∈ Gen.arches, ∀ r, rowOfVar kv.2 = some r → r.names = "" → resolveFails kv.1 = true := by
    decide +kernel
  intro kv hkv r hr hn goarch s hs hl
  have h := key kv hkv r hr hn
  rw [getInfo_nonempty goarch s hs, hl]
  simp only [resolveFails] at h
  split at h
  · cases h
  · rename_i e he
    rw [he, eq_of_beq h]

/-- … these are exactly the rows marked "not fully implemented" in `info.go` -/
theorem tableless_rows :
    (Gen.archRows.filter (fun r => r.names == "")).map (·.name) =
      ["ppc", "ppc64", "ppc64le", "s390", "s390x", "mips", "mipsel", "mips64", "mips64n32",
       "mipsel64", "mipsel64n32"] := by
  decide +kernel

/-- **Unknown names are unsupported**: a non-empty name whose lower-casing is not a key of `arches`
    is an error. -/
theorem unknown_arch_unsupported (goarch s : String) (hs : s ≠ "")
    (hk : lower s ∉ Gen.arches.map (·.1)) : getInfo goarch s = .error (.unsupported (lower s)) := by
  rw [getInfo_nonempty goarch s hs]
  unfold resolve
  have : Gen.arches.lookup (lower s) = none := by
    rw [List.lookup_eq_none_iff]
    intro p hp
    simp only [bne_iff_ne, ne_eq]
    intro e
    exact hk (List.mem_map.mpr ⟨p, hp, e.symm⟩)
  rw [this]

/-- the empty name stands for `runtime.GOARCH`: supported on the GOARCHes with a table, an error on
    the others (e.g. a ppc64le or riscv64 build) -/
theorem empty_name_is_goarch :
    (getInfo "amd64" "").toOption.map (·.name) = some "x86_64" ∧
    (getInfo "386" "").toOption.map (·.name) = some "i386" ∧
    (getInfo "arm" "").toOption.map (·.name) = some "arm" ∧
    (getInfo "arm64" "").toOption.map (·.name) = some "aarch64" ∧
    getInfo "ppc64le" "" = .error (.unsupported "ppc64le") ∧
    getInfo "s390x" "" = .error (.unsupported "s390x") ∧
    getInfo "riscv64" "" = .error (.unsupported "riscv64") := by
  simp only [getInfo_empty]
  decide +kernel

/-- `buildX32` skips the rows whose ABI column is `64`, `buildX86_64` those whose column is `x32` —
    the literal values of the second column of `arch/x86/entry/syscalls/syscall_64.tbl`
    (`common`, `64`, `x32`).  The pinned generator compared with `"x64"`, which never matches, and
    so copied the 64-bit-only rows into the x32 table (F7). -/
theorem abi_filter_matches_tbl_format :
    Gen.x32BuilderSkipsAbi = "64" ∧ Gen.x86_64BuilderSkipsAbi = "x32" := by
  decide +kernel

end C12
