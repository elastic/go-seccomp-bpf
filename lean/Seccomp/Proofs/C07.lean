import Seccomp.Proofs.Lemmas.ToEntries
import Seccomp.Proofs.Lemmas.GroupTotal
import Seccomp.Proofs.C01
/-!
# C07 — invalid policies are rejected, never mis-compiled; valid ones are accepted

`assemblePolicy` returns `Except CErr (List Instr)`: an error *or* a program, never both, and it is a
total function (the Go panics that a model could hide — slice bounds, nil map entries, failed type
assertions — do not exist in it; the correspondence harness recovers Go panics and reports them as
the reply `PANIC`, which the model never produces, so a panic is a correspondence difference).

The property lists defects (`GroupDefect`, `Defective`: negative, defined here); the lemmas work with
`GroupValid` (positive, `ToEntries`), and `groupValid_iff_no_defect`, `not_defective_iff` translate.  The
theorems of the property are read off two facts: `accepted_valid` (from `assemblePolicy_eq_ok_iff` and
`GroupValid.of_toEntries`) and `assembleGroup_ok` (from `toEntries_ok_of_valid` and
`assemble_group_total`).  The three `*_error` theorems are the only proofs that unfold `assemblePolicy`,
because they name the error class.
-/

namespace C07

variable (A : ArchInfo) (ly : Layout)

/-- the defects of one group that the property lists -/
inductive GroupDefect (g : Group) : Prop
  | unknownName (n : String) (hn : n ∈ g.names) (h : A.number n = none)
  | unknownCondName (nc : NameConds) (hnc : nc ∈ g.withConds) (h : A.number nc.name = none)
  | duplicate (l1 l2 : List String) (n : String) (hg : g.names = l1 ++ n :: l2) (hn : n ∈ l2)
  | mixed (n : String) (hn : n ∈ g.names) (nc : NameConds) (hnc : nc ∈ g.withConds) (heq : nc.name = n)
  | argument (nc : NameConds) (hnc : nc ∈ g.withConds) (c : Condition) (hc : c ∈ nc.conds) (h : c.arg > 5)
  | operation (nc : NameConds) (hnc : nc ∈ g.withConds) (c : Condition) (hc : c ∈ nc.conds)
      (h : opOfString c.op = none)

/-- the defects of a policy that the property lists (`A = none`: the architecture has no tables) -/
inductive Defective : Option ArchInfo → Policy → Prop
  | unknownDefault (A p) (h : p.default ∉ namedActions) : Defective A p
  | noGroups (A p) (h : p.groups = []) : Defective A p
  | noTables (p) : Defective none p
  | group (A p g) (hg : g ∈ p.groups) (hd : GroupDefect A g) : Defective (some A) p

theorem nodup_of_no_split {α : Type} : ∀ (l : List α), (∀ l1 l2 a, l = l1 ++ a :: l2 → a ∉ l2) → l.Nodup
  | [], _ => List.nodup_nil
  | x :: rest, h => List.nodup_cons.2 ⟨h [] rest x rfl,
      nodup_of_no_split rest fun l1 l2 a e => h (x :: l1) l2 a (by rw [e]; rfl)⟩

theorem groupValid_iff_no_defect (g : Group) : GroupValid A g ↔ ¬ GroupDefect A g := by
  constructor
  · intro hv hd
    cases hd with
    | unknownName n hn h => simpa [h] using hv.namesKnown n hn
    | unknownCondName nc hnc h => simpa [h] using hv.condNamesKnown nc hnc
    | duplicate l1 l2 n hg hn => exact (List.nodup_cons.1 (List.nodup_append.1 (hg ▸ hv.namesNodup)).2.1).1 hn
    | mixed n hn nc hnc heq => exact hv.notMixed nc hnc (heq ▸ hn)
    | argument nc hnc c hc h => exact Nat.not_le_of_gt h (hv.condsValid nc hnc c hc).1
    | operation nc hnc c hc h => simpa [h] using (hv.condsValid nc hnc c hc).2
  · intro h
    refine ⟨fun n hn => ?_, nodup_of_no_split _ fun l1 l2 n hg hn => h (.duplicate l1 l2 n hg hn),
      fun nc hnc => ?_, fun nc hnc hmem => h (.mixed nc.name hmem nc hnc rfl), fun nc hnc c hc => ⟨?_, ?_⟩⟩
    · exact Option.isSome_iff_ne_none.2 fun ho => h (.unknownName n hn ho)
    · exact Option.isSome_iff_ne_none.2 fun ho => h (.unknownCondName nc hnc ho)
    · exact Nat.le_of_not_gt fun hgt => h (.argument nc hnc c hc hgt)
    · exact Option.isSome_iff_ne_none.2 fun ho => h (.operation nc hnc c hc ho)

theorem not_defective_iff (p : Policy) :
    ¬ Defective (some A) p ↔ p.default ∈ namedActions ∧ p.groups ≠ [] ∧ ∀ g ∈ p.groups, GroupValid A g := by
  constructor
  · exact fun h => ⟨Decidable.not_not.1 fun hd => h (.unknownDefault _ _ hd), fun hg => h (.noGroups _ _ hg),
      fun g hg => (groupValid_iff_no_defect A g).2 fun hd => h (.group A p g hg hd)⟩
  · rintro ⟨hd, hg, hv⟩ h
    cases h with
    | unknownDefault _ _ h => exact h hd
    | noGroups _ _ h => exact hg h
    | group _ _ g hmem hdg => exact (groupValid_iff_no_defect A g).1 (hv g hmem) hdg

theorem exists_error_of_not_ok {ε α : Type} {x : Except ε α} (h : ∀ a, x ≠ .ok a) : ∃ e, x = .error e := by
  cases x with
  | error e => exact ⟨e, rfl⟩
  | ok a => exact absurd rfl (h a)

theorem toEntries_error_of_defect (g : Group) (hd : GroupDefect A g) : ∃ ps, toEntries A g = .error ps :=
  exists_error_of_not_ok fun _ h => (groupValid_iff_no_defect A g).1 (.of_toEntries h) hd

theorem group_nonempty_of_defect (g : Group) (hd : GroupDefect A g) :
    (g.names.isEmpty && g.withConds.isEmpty) = false :=
  Bool.eq_false_iff.2 fun h =>
    have ⟨hn, hw⟩ : g.names = [] ∧ g.withConds = [] := by simpa using h
    (groupValid_iff_no_defect A g).1 (.of_empty A hn hw) hd

theorem groupValid_of_assembleGroup {g : Group} {out : List Instr} (h : assembleGroup A ly g = .ok out) :
    GroupValid A g := by
  obtain ⟨⟨hn, hw⟩, -⟩ | ⟨-, ents, he, -⟩ := assembleGroup_eq_ok_iff.1 h
  · exact .of_empty A hn hw
  · exact .of_toEntries he

theorem assembleGroup_error_of_defect (g : Group) (hd : GroupDefect A g) :
    ∃ e, assembleGroup A ly g = .error e :=
  exists_error_of_not_ok fun _ h => (groupValid_iff_no_defect A g).1 (groupValid_of_assembleGroup A ly h) hd

theorem assembleGroup_ok (hinj : NumInj A) (g : Group) (hv : GroupValid A g) :
    ∃ out, assembleGroup A ly g = .ok out := by
  obtain ⟨ents, he⟩ := toEntries_ok_of_valid A hinj g hv
  obtain ⟨out, ho⟩ := assemble_group_total ly ents (enc g.action)
  simp only [assembleGroup_eq_ok_iff]
  by_cases hemp : g.names = [] ∧ g.withConds = []
  · exact ⟨[], .inl ⟨hemp, rfl⟩⟩
  · exact ⟨out, .inr ⟨hemp, ents, he, ho⟩⟩

theorem assembleGroups_ok_iff (gs : List Group) :
    (∃ outs, assembleGroups A ly gs = .ok outs) ↔ ∀ g ∈ gs, ∃ out, assembleGroup A ly g = .ok out :=
  assembleGroups_eq_mapM A ly gs ▸ mapM_ok_iff _ gs

theorem assembleGroups_error_of_mem : ∀ (gs : List Group) (g : Group), g ∈ gs →
    (∃ e, assembleGroup A ly g = .error e) → ∃ e, assembleGroups A ly gs = .error e := by
  intro gs g hg ⟨e, he⟩
  refine exists_error_of_not_ok fun outs hs => ?_
  obtain ⟨out, ho⟩ := (assembleGroups_ok_iff A ly gs).1 ⟨outs, hs⟩ g hg
  simp [he] at ho

/-- **Accepted ⇒ valid**, whatever the table: the default action is a named one, there is a group, the
    architecture has tables, and every group is free of the listed defects. -/
theorem accepted_valid (oA : Option ArchInfo) (p : Policy) (prog : List Instr)
    (h : assemblePolicy oA ly p = .ok prog) :
    p.default ∈ namedActions ∧ p.groups ≠ [] ∧ ∃ A, oA = some A ∧ ∀ g ∈ p.groups, GroupValid A g := by
  obtain ⟨hd, hg, A, outs, rfl, ho, -⟩ := assemblePolicy_eq_ok_iff.1 h
  refine ⟨hd, hg, A, rfl, fun g hmem => ?_⟩
  obtain ⟨out, ho⟩ := (assembleGroups_ok_iff A ly _).1 ⟨outs, ho⟩ g hmem
  exact groupValid_of_assembleGroup A ly ho

/-- **Defective ⇒ rejected**: an unknown default action, no groups, no tables, an unknown name, a name
    duplicated within `Names`, a name with and without conditions in one group, an argument index
    above 5 and an unimplemented operation all make the compiler return an error — at whatever
    position of the policy the defect sits, and whatever else the policy contains. -/
theorem defective_rejected (oA : Option ArchInfo) (p : Policy) (hd : Defective oA p) :
    ∃ e, assemblePolicy oA ly p = .error e := by
  refine exists_error_of_not_ok fun prog h => ?_
  obtain ⟨hdef, hgs, A, rfl, hv⟩ := accepted_valid ly oA p prog h
  exact (not_defective_iff A p).2 ⟨hdef, hgs, hv⟩ hd

/-- **An error comes without a program** (the result is an error *or* a program). -/
theorem error_no_program (oA : Option ArchInfo) (p : Policy) (e : CErr) (h : assemblePolicy oA ly p = .error e) :
    ∀ prog, assemblePolicy oA ly p ≠ .ok prog := by
  intro prog hp; rw [h] at hp; cases hp

/-- the error classes of the first checks, exactly -/
theorem unknown_default_error (oA : Option ArchInfo) (p : Policy) (h : p.default ∉ namedActions) :
    assemblePolicy oA ly p = .error .default := by
  simp [assemblePolicy, h]

theorem no_groups_error (oA : Option ArchInfo) (p : Policy) (hd : p.default ∈ namedActions) (h : p.groups = []) :
    assemblePolicy oA ly p = .error .empty := by
  simp [assemblePolicy, hd, h]

theorem no_tables_error (p : Policy) (hd : p.default ∈ namedActions) (h : p.groups ≠ []) :
    assemblePolicy none ly p = .error .arch := by
  simp [assemblePolicy, hd, h]

/-- **Nothing is dropped silently**: if the compiler accepts a policy then every condition written in
    it has an implemented operation and an argument index ≤ 5 (and by `C01.compile_correct` every one
    of them takes part in the decision, because the decision is `Spec.decision` of the policy as
    written). -/
theorem accepted_conditions_valid (p : Policy) (prog : List Instr)
    (h : assemblePolicy (some A) ly p = .ok prog) :
    ∀ g ∈ p.groups, ∀ nc ∈ g.withConds, ∀ c ∈ nc.conds, c.arg ≤ 5 ∧ (opOfString c.op).isSome = true := by
  obtain ⟨_, _, _, ⟨rfl⟩, hv⟩ := accepted_valid ly _ p prog h
  exact fun g hg => (hv g hg).condsValid

/-- the names of an accepted policy all exist in the architecture's table -/
theorem accepted_names_known (p : Policy) (prog : List Instr)
    (h : assemblePolicy (some A) ly p = .ok prog) :
    ∀ g ∈ p.groups, (∀ n ∈ g.names, (A.number n).isSome = true) ∧
      (∀ nc ∈ g.withConds, (A.number nc.name).isSome = true) := by
  obtain ⟨_, _, _, ⟨rfl⟩, hv⟩ := accepted_valid ly _ p prog h
  exact fun g hg => ⟨(hv g hg).namesKnown, (hv g hg).condNamesKnown⟩

/-- **Valid ⇒ accepted.**  A policy with a named default action, at least one group, a table in which
    different names have different numbers (`NumInj`: a hypothesis, see there), and groups free of the
    listed defects is accepted: the compiler returns a program.  No size bound is needed for acceptance
    by the compiler (the 4096 limit is the kernel's, C05), and entries with an empty condition list are
    accepted too (they never match, C03). -/
theorem valid_accepted (hinj : NumInj A) (p : Policy) (hd : p.default ∈ namedActions)
    (hg : p.groups ≠ []) (hv : ∀ g ∈ p.groups, GroupValid A g) :
    ∃ prog, assemblePolicy (some A) ly p = .ok prog := by
  obtain ⟨outs, ho⟩ := (assembleGroups_ok_iff A ly p.groups).2 fun g hmem => assembleGroup_ok A ly hinj g (hv g hmem)
  exact ⟨_, assemblePolicy_eq_ok_iff.2 ⟨hd, hg, A, outs, rfl, ho, rfl⟩⟩

/-- **Accepted ⇔ free of the listed defects** (for tables with distinct numbers). -/
theorem accepted_iff_not_defective (hinj : NumInj A) (p : Policy) :
    (∃ prog, assemblePolicy (some A) ly p = .ok prog) ↔ ¬ Defective (some A) p := by
  rw [not_defective_iff]
  refine ⟨fun ⟨prog, h⟩ => ?_, fun ⟨hd, hg, hv⟩ => valid_accepted A ly hinj p hd hg hv⟩
  obtain ⟨hd, hg, _, ⟨rfl⟩, hv⟩ := accepted_valid ly _ p prog h
  exact ⟨hd, hg, hv⟩

/-! ### non-vacuity: a defect (an operation name in the wrong case) that is rejected with exactly its problem, and a valid
    policy that is accepted -/

def badOp : Policy :=
  { default := actAllow,
    groups := [ { names := ["read"], action := actKillProcess,
                  withConds := [ { name := "write", conds := [ { arg := 1, op := "equal", val := 6#64 },
                                                               { arg := 0, op := "Equal", val := 5#64 } ] } ] } ] }

theorem badOp_defective : Defective (some C01.tinyArch) badOp :=
  .group _ _ _ List.mem_cons_self
    (.operation { name := "write", conds := [ { arg := 1, op := "equal", val := 6#64 },
                                              { arg := 0, op := "Equal", val := 5#64 } ] }
      List.mem_cons_self { arg := 1, op := "equal", val := 6#64 } List.mem_cons_self (by decide))

theorem badOp_rejected :
    (match assemblePolicy (some C01.tinyArch) (Layout.ofEndian .little) badOp with
     | .error e => e == .problems [.operation "equal"]
     | .ok _ => false) = true := by decide +kernel

theorem valid_accepted_example : (assemblePolicy (some C01.tinyArch) (Layout.ofEndian .little) C01.twoGroups).toOption.isSome = true :=
  C01.twoGroups_accepted

end C07
