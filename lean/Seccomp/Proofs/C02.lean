import Seccomp.Proofs.C01
/-!
# C02 — argument conditions are exact unsigned 64-bit comparisons

`Spec.rel` is the unsigned 64-bit relation (on `toNat`, resp. `&&&` against zero).  The theorems
quantify over all operations, argument positions, operands and actual values (2^128 pairs per
operation) and over both byte orders of `seccomp_data`.
-/

namespace C02

theorem rel_meaning (a v : BitVec 64) :
    (Spec.rel .eq a v = true ↔ a.toNat = v.toNat) ∧
    (Spec.rel .ne a v = true ↔ a.toNat ≠ v.toNat) ∧
    (Spec.rel .gt a v = true ↔ a.toNat > v.toNat) ∧
    (Spec.rel .lt a v = true ↔ a.toNat < v.toNat) ∧
    (Spec.rel .ge a v = true ↔ a.toNat ≥ v.toNat) ∧
    (Spec.rel .le a v = true ↔ a.toNat ≤ v.toNat) ∧
    (Spec.rel .set a v = true ↔ a &&& v ≠ 0#64) ∧
    (Spec.rel .nset a v = true ↔ a &&& v = 0#64) := by
  simp [Spec.rel, BitVec.toNat_inj]

/-- the operation names are exactly the eight documented ones -/
theorem op_names :
    opOfString "Equal" = some .eq ∧ opOfString "NotEqual" = some .ne ∧
    opOfString "GreaterThan" = some .gt ∧ opOfString "LessThan" = some .lt ∧
    opOfString "GreaterOrEqual" = some .ge ∧ opOfString "LessOrEqual" = some .le ∧
    opOfString "BitsSet" = some .set ∧ opOfString "BitsNotSet" = some .nset := by
  simp [opOfString]

def single (d act : Word) (name : String) (c : Condition) : Policy :=
  { default := d, groups := [ { names := [], withConds := [ { name := name, conds := [c] } ], action := act } ] }

/-- **Exactness.**  For every accepted single-condition policy and every event of the policy's
    architecture, the filter answers the entry's action exactly when the event's number is the
    entry's and the unsigned 64-bit relation holds between the actual argument and the operand;
    otherwise the default. -/
theorem cond_lowering_exact (A : ArchInfo) (e : Endian) (d act : Word) (name : String) (c : Condition) (op : Op)
    (hop : opOfString c.op = some op) (prog : List Instr)
    (h : assemblePolicy (some A) (Layout.ofEndian e) (single d act name c) = .ok prog)
    (ev : Event) (hn : C01.Native A ev) (a0 : Word) :
    run (words e ev) prog a0 =
      if Spec.nameIs A ev.nr name = true ∧ Spec.rel op (ev.args c.arg) c.val = true
      then .ret (enc act) else .ret (enc d) := by
  rw [C01.first_group_decides A e _ prog h ev hn a0]
  simp only [single, List.find?_cons, List.find?_nil, Spec.groupMatches, List.any_nil, Bool.false_or,
    List.any_cons, Bool.or_false, List.isEmpty_cons, Bool.not_false, Bool.and_true, List.all_cons, List.all_nil,
    Spec.condHolds, hop]
  cases Spec.nameIs A ev.nr name <;> cases Spec.rel op (ev.args c.arg) c.val <;> rfl

/-- **Both byte orders give the same answer**: the little-endian and the big-endian program, each run
    on its own layout of the same event, agree. -/
theorem cond_endian_independent (A : ArchInfo) (p : Policy) (progLE progBE : List Instr)
    (hl : assemblePolicy (some A) (Layout.ofEndian .little) p = .ok progLE)
    (hb : assemblePolicy (some A) (Layout.ofEndian .big) p = .ok progBE) (ev : Event) (a0 a1 : Word) :
    run (words .little ev) progLE a0 = run (words .big ev) progBE a1 := by
  rw [C01.compile_correct A .little p progLE hl ev a0, C01.compile_correct A .big p progBE hb ev a1]

/-- **The halves are read from the right words**: the offset `LdHi i` / `LdLo i` loads holds the most /
    least significant 32 bits of argument `i` in the byte order in effect, and the two halves determine
    the 64-bit value. -/
theorem halves_read_correctly (e : Endian) (ev : Event) (i : Nat) :
    words e ev ((Layout.ofEndian e).hiOff i) = hi (ev.args i) ∧
    words e ev ((Layout.ofEndian e).loOff i) = lo (ev.args i) ∧
    (ev.args i).toNat = (hi (ev.args i)).toNat * 2^32 + (lo (ev.args i)).toNat :=
  ⟨(sees_words e ev).hi i, (sees_words e ev).lo i, toNat_split _⟩

/-- the offsets are those of `struct seccomp_data` -/
theorem offsets (i : Nat) :
    (Layout.ofEndian .little).loOff i = 16 + 8 * i ∧ (Layout.ofEndian .little).hiOff i = 16 + 8 * i + 4 ∧
    (Layout.ofEndian .big).hiOff i = 16 + 8 * i ∧ (Layout.ofEndian .big).loOff i = 16 + 8 * i + 4 := by
  simp [Layout.ofEndian]

/-- **One lowered condition (label level), any layout**: the fragment emitted for a condition, run in
    front of any code `rest`, continues at `m` iff the condition holds and at the list's
    `noMatch` label otherwise (`K`: at that label, looked up in `lab (nextArg e l c) :: rest`; the fragment's last
    token is that marker, and `m` may be it). -/
theorem cond_fragment_exact {w : Nat → Word} (ly : Layout) (nr : Word) (args : Nat → BitVec 64)
    (hs : Sees ly w nr args) (e l c : Nat) (cnd : Cnd) (m : PL) (rest : List (Tok PL)) (a : Word)
    (hm : ∀ j, m ≠ .nextIns e l c j) :
    ∃ a', runT w (condToks ly e l c cnd m ++ rest) a =
      K w e l c rest (if cnd.holds args then m else .noMatch e l) a' :=
  cond_spec w ly nr args hs e l c cnd m rest a hm

/-! ### non-vacuity: `GreaterThan 0xFFFFFFFF_00000000` on argument 5, actual value `0xFFFFFFFF_00000001` -/

def gtPolicy : Policy := single actKillProcess actAllow "read"
  { arg := 5, op := "GreaterThan", val := 0xFFFFFFFF00000000#64 }

theorem gtPolicy_accepted_le : (assemblePolicy (some C01.tinyArch) (Layout.ofEndian .little) gtPolicy).toOption.isSome = true := by
  decide +kernel
theorem gtPolicy_accepted_be : (assemblePolicy (some C01.tinyArch) (Layout.ofEndian .big) gtPolicy).toOption.isSome = true := by
  decide +kernel

theorem gt_example : Spec.rel .gt 0xFFFFFFFF00000001#64 0xFFFFFFFF00000000#64 = true ∧
    Spec.rel .gt 0x00000000FFFFFFFF#64 0xFFFFFFFF00000000#64 = false := by decide

end C02
