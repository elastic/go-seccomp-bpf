import Seccomp.Proofs.C01
import Seccomp.Proofs.Lemmas.Validity
/-!
# C05 — every emitted program is a valid seccomp filter with a closed return set

`kernelAccepts` (Model/Raw.lean) is the port of the kernel's `bpf_check_classic` +
`seccomp_check_filter` (validated against the running kernel by the `verifier` stream of C08);
`encode` is `bpf.Assemble`.
-/

namespace C05

theorem compile_structure (A : ArchInfo) (e : Endian) (p : Policy) (prog : List Instr)
    (h : assemblePolicy (some A) (Layout.ofEndian e) p = .ok prog) :
    StrictOk prog ∧ prog.all fits = true ∧ (∃ pre, prog = pre ++ [.ret (enc p.default)]) ∧
    RetsIn (enc p.default :: enosys :: p.groups.map (fun g => enc g.action)) prog := by
  obtain ⟨-, -, _, outs, ⟨rfl⟩, ho, rfl⟩ := assemblePolicy_eq_ok_iff.1 h
  exact policyProg_structure A.archI (enc p.default)
    (assembleGroups_bodyOk A (Layout.ofEndian_inRecord e) p.groups outs ho)

/-- **Every accepted policy's program passes the kernel's checker** (if it has at most 4096
    instructions): non-empty, every jump forward and strictly in bounds, the last instruction is a
    return (so every path ends in a return), only aligned 32-bit loads inside the 64-byte record, only
    the permitted opcodes — and it encodes to raw form without loss (all skips fit 8 bits, all operands
    32 bits).  This covers degenerate accepted policies: groups without names, maximal lists, long
    condition lists. -/
theorem compile_kernel_valid (A : ArchInfo) (e : Endian) (p : Policy) (prog : List Instr)
    (h : assemblePolicy (some A) (Layout.ofEndian e) p = .ok prog) (hlen : prog.length ≤ 4096) :
    kernelAccepts (prog.map encode) = true ∧ prog.all Instr.fitsRaw = true := by
  obtain ⟨hs, hf, ⟨pre, rfl⟩, -⟩ := compile_structure A e p prog h
  exact ⟨kernelAccepts_of_strict hs hlen, fitsRaw_of_strict _ hs hlen hf⟩

/-- **Closed return set, syntactically**: every `ret` instruction of the program — reachable or not —
    returns the encoding of the default action, of one of the groups' actions, or ERRNO|ENOSYS. -/
theorem compile_ret_closed_syntactic (A : ArchInfo) (e : Endian) (p : Policy) (prog : List Instr)
    (h : assemblePolicy (some A) (Layout.ofEndian e) p = .ok prog) (k : Word) (hk : Instr.ret k ∈ prog) :
    k = enc p.default ∨ k = 0x00050026#32 ∨ ∃ g ∈ p.groups, k = enc g.action := by
  simpa [enosys, eq_comm (a := k)] using (compile_structure A e p prog h).2.2.2 k hk

/-- **Closed return set, semantically**: whatever the event, an accepted policy's filter returns, and
    the value is the encoding of the default action, of one of the groups' actions, or ERRNO(ENOSYS)
    (the latter on x86_64 only).  In particular it never falls off the end and never gets stuck. -/
theorem compile_ret_closed (A : ArchInfo) (e : Endian) (p : Policy) (prog : List Instr)
    (h : assemblePolicy (some A) (Layout.ofEndian e) p = .ok prog) (ev : Event) (a0 : Word) :
    ∃ k, run (words e ev) prog a0 = .ret k ∧
      (k = enc p.default ∨ (∃ g ∈ p.groups, k = enc g.action) ∨ (A.id = auditArchX86_64 ∧ k = 0x00050026#32)) := by
  refine ⟨Spec.decision A p ev, C01.compile_correct A e p prog h ev a0, ?_⟩
  unfold Spec.decision
  split
  · exact .inl rfl
  · split
    · rename_i hx; exact .inr (.inr ⟨hx.1, rfl⟩)
    · split
      · rename_i g hg
        exact .inr (.inl ⟨g, List.mem_of_find?_eq_some hg, rfl⟩)
      · exact .inl rfl

/-- the loads of a compiled program are exactly words of `struct seccomp_data`: number, architecture,
    or a half of one of the six arguments -/
theorem loads_inside_record (A : ArchInfo) (e : Endian) (p : Policy) (prog : List Instr)
    (h : assemblePolicy (some A) (Layout.ofEndian e) p = .ok prog) :
    StrictOk prog := (compile_structure A e p prog h).1

/-! ### non-vacuity: the degenerate policy (all groups empty, DESIGN §7 F1) on which the library at the verified
    commit emitted an invalid program -/

def allEmpty : Policy :=
  { default := actKillProcess, groups := [ { names := [], withConds := [], action := actAllow },
                                           { names := [], withConds := [], action := actErrno } ] }

theorem allEmpty_valid :
    (match assemblePolicy (some C01.tinyArch) (Layout.ofEndian .little) allEmpty with
     | .ok prog => kernelAccepts (prog.map encode) && prog.length == 4
     | .error _ => false) = true := by decide +kernel

end C05
