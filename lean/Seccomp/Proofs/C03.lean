import Seccomp.Proofs.C01
/-!
# C03 — conditions: AND within a list, OR across lists, no leak across syscalls
-/

namespace C03

/-- **AND within a list, OR across lists** (statement side, spelled out).  The same name may occur in several
    entries: they are alternatives. -/
theorem group_matches_iff (A : ArchInfo) (g : Group) (nr : Word) (args : Nat → BitVec 64) :
    Spec.groupMatches A g nr args = true ↔
      (∃ n ∈ g.names, Spec.nameIs A nr n = true) ∨
      (∃ nc ∈ g.withConds, Spec.nameIs A nr nc.name = true ∧ nc.conds ≠ [] ∧
        ∀ c ∈ nc.conds, Spec.condHolds c args = true) := by
  simp only [Spec.groupMatches, Bool.or_eq_true, List.any_eq_true, Bool.and_eq_true, Bool.not_eq_true',
    List.isEmpty_eq_false_iff, List.all_eq_true, and_assoc]

/-- **Merging is OR of lists**: what `toSyscallsWithConditions` builds (same-name entries merged into
    one entry with several lists) matches exactly when the group as written does. -/
theorem merge_is_or_of_lists (A : ArchInfo) (g : Group) (ents : List Entry) (h : toEntries A g = .ok ents)
    (nr : Word) (args : Nat → BitVec 64) :
    ents.any (·.matches nr args) = Spec.groupMatches A g nr args :=
  toEntries_spec A nr args h

/-- **One entry, label level.**  Entered with the syscall number in the accumulator, an entry jumps to
    the group's action iff it matches; otherwise it falls through to the code behind it **with the
    syscall number in the accumulator again**, i.e. exactly as if it were absent. -/
theorem entry_matches_iff (w : Nat → Word) (ly : Layout) (nr : Word) (args : Nat → BitVec 64)
    (hs : Sees ly w nr args) (e : Nat) (ent : Entry) (rest : List (Tok PL)) :
    ∃ a', runT w (entryToks ly e ent ++ rest) nr =
      if ent.matches nr args then contAt w .action rest a' else runT w rest nr :=
  entry_spec w ly nr args hs e ent rest

theorem first_match_congr (f : Group → Bool) (pre post : List Group) (g g' : Group)
    (hf : f g = f g') (ha : g.action = g'.action) :
    ((pre ++ g :: post).find? f).map (fun x => enc x.action) =
    ((pre ++ g' :: post).find? f).map (fun x => enc x.action) := by
  simp only [List.find?_append, List.find?_cons, ← hf]
  cases pre.find? f <;> cases f g <;> simp [ha]

/-- **No match ⇒ as if absent.**  If entry `nc` of a group does not match the event (other number, or
    some condition of its list fails), the policy decides the event exactly as the policy without that
    entry — later entries, later groups and the default see the event's real number. -/
theorem no_match_is_absent (A : ArchInfo) (d : Word) (pre post : List Group) (g : Group)
    (l1 l2 : List NameConds) (nc : NameConds) (hg : g.withConds = l1 ++ nc :: l2) (ev : Event)
    (hno : (Spec.nameIs A ev.nr nc.name && !nc.conds.isEmpty && nc.conds.all (Spec.condHolds · ev.args)) = false) :
    Spec.decision A { default := d, groups := pre ++ g :: post } ev =
    Spec.decision A { default := d, groups := pre ++ { g with withConds := l1 ++ l2 } :: post } ev := by
  simp only [Spec.decision_eq, first_match_congr (fun g => Spec.groupMatches A g ev.nr ev.args) pre post g
    { g with withConds := l1 ++ l2 }
    (by simp only [Spec.groupMatches, hg, List.any_append, List.any_cons, hno, Bool.false_or]) rfl]

/-- … and so do the compiled filters (for every choice of argument values, in particular argument
    words that equal other entries' syscall numbers or operands). -/
theorem no_leak_compiled (A : ArchInfo) (e : Endian) (d : Word) (pre post : List Group) (g : Group)
    (l1 l2 : List NameConds) (nc : NameConds) (hg : g.withConds = l1 ++ nc :: l2) (ev : Event)
    (hno : (Spec.nameIs A ev.nr nc.name && !nc.conds.isEmpty && nc.conds.all (Spec.condHolds · ev.args)) = false)
    (prog prog' : List Instr)
    (h : assemblePolicy (some A) (Layout.ofEndian e) { default := d, groups := pre ++ g :: post } = .ok prog)
    (h' : assemblePolicy (some A) (Layout.ofEndian e)
            { default := d, groups := pre ++ { g with withConds := l1 ++ l2 } :: post } = .ok prog')
    (a0 a1 : Word) :
    run (words e ev) prog a0 = run (words e ev) prog' a1 := by
  rw [C01.compile_correct A e _ prog h ev a0, C01.compile_correct A e _ prog' h' ev a1,
    no_match_is_absent A d pre post g l1 l2 nc hg ev hno]

/-! ### non-vacuity: an argument word that is the number of another entry (DESIGN §7 F2)

rules `write(arg0 = 5)`, `read(arg1 = 7)` → kill_process, default allow; the event `write(0, 7)`
must be allowed: its `arg0` word 0 is the number of `read`, and a filter that reached the `read`
entry with that word in the accumulator would kill it. -/

def leakPolicy : Policy :=
  { default := actAllow,
    groups := [ { names := [], action := actKillProcess,
                  withConds := [ { name := "write", conds := [ { arg := 0, op := "Equal", val := 5#64 } ] },
                                 { name := "read",  conds := [ { arg := 1, op := "Equal", val := 7#64 } ] } ] } ] }

def leakEvent : Event :=
  { nr := 1#32, arch := 0x40000003#32, ip := 0#64, args := fun i => if i = 1 then 7#64 else 0#64 }

theorem leakPolicy_accepted : (assemblePolicy (some C01.tinyArch) (Layout.ofEndian .little) leakPolicy).toOption.isSome = true := by
  decide +kernel

theorem leak_witness_allowed : Spec.decision C01.tinyArch leakPolicy leakEvent = actAllow := by decide +kernel

end C03
