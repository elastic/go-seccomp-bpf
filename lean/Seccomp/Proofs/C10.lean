import Seccomp.Proofs.C09
/-!
# C10 — thread-sync covers every thread under every schedule

The kernel performs a thread-sync attach as one atomic step (it holds `sighand->siglock` and
`cred_guard_mutex`); that atomicity is an assumption about Linux and is what `sysSeccomp` models.
What is proved: the loader hands the flag word to the kernel unmodified, a nil result with thread-sync
means every live thread carries the filter, every thread created afterwards inherits it, and nothing
any thread does later (more filters, prctl, exits, clones, under any interleaving) removes it; without
thread-sync only the calling thread is touched.
-/

namespace C10

/-- **The flag word reaches the kernel unmodified** (and so do operation and program): the one seccomp
    call `LoadFilter` makes is `seccomp(SECCOMP_SET_MODE_FILTER, filter.Flag, &prog)`. -/
theorem flags_unmodified (U : Unsupported) (filter : Filter) (p : Prog) (hp : filter.policy = .prog p) (w : World)
    (hnf : ¬ nnpFault filter w) :
    ∃ rest, (Gen.loadFilter U filter w).2.log =
      .seccomp (C09.callThread filter w) SECCOMP_SET_MODE_FILTER filter.flag (mkFprog (.prog p)) :: rest := by
  obtain ⟨c, w', o, -, -, hw⟩ := gen_load_outcome U filter w
  rw [hw, ← hp]
  have hl := callWorld_log filter w
  cases o with
  | noProgram h => exact absurd hp (h p)
  | nnpRefused _ _ hf => exact absurd hf hnf
  | declined | installed => exact ⟨_, hl⟩

/-- … and in the one case excluded above no seccomp call is made at all -/
theorem no_seccomp_call_on_nnp_fault (U : Unsupported) (filter : Filter) (p : Prog) (hp : filter.policy = .prog p)
    (w : World) (hf : nnpFault filter w) :
    (Gen.loadFilter U filter w).2.log = .prctl w.cur 38 1 0 0 0 :: w.log :=
  (C09.nnp_refusal_is_error U filter p hp w hf.1 hf.2).2.2.1

/-- the bit the wrapper tests for a refused thread-sync is the UAPI's TSYNC bit -/
theorem flag_constants : FLAG_TSYNC = 1 ∧ FLAG_LOG = 2 := ⟨rfl, rfl⟩

def Covered (id : FilterId) (w : World) : Prop := ∀ t ∈ w.live, id ∈ (w.thr t).filters

/-- **nil with thread-sync ⇒ every existing thread is covered.** -/
theorem tsync_covers_existing (U : Unsupported) (filter : Filter) (w w' : World) (hc : w.cur ∈ w.live)
    (h : Gen.loadFilter U filter w = (GoErr.nil, w')) (hts : filter.flag &&& FLAG_TSYNC ≠ 0) :
    ∃ p, filter.policy = .prog p ∧ Covered p.id w' := by
  obtain ⟨p, hp, _, hall⟩ := C09.load_nil_implies_installed U filter w w' hc h
  exact ⟨p, hp, fun t ht => List.mem_of_mem_head? (hall hts t ht)⟩

/-- what can happen after the load returned: any thread enters the kernel (seccomp with any operation,
    flags and program; prctl with any arguments), threads are created by live threads, threads exit,
    the goroutine is rescheduled -/
inductive Step where
  | seccompBy (t : Tid) (op flags : Nat) (uargs : Option Prog)
  | prctlBy (t : Tid) (option a1 a2 a3 a4 : Nat)
  | clone (parent child : Tid)
  | exit (t : Tid)
  | resched

/-- `t` becomes the running thread if it is live; otherwise the world is left as it is, and a call made on it
    is the running thread's (an over-approximation: more histories) -/
def onThread (t : Tid) (w : World) : World := if t ∈ w.live then { w with cur := t } else w

/-- a `seccompBy` or `prctlBy` step that names a thread which is not live is a call by the running thread,
    not a no-op -/
def Step.apply : Step → World → World
  | .seccompBy t op flags uargs, w => (sysSeccomp op flags uargs (onThread t w)).2.2
  | .prctlBy t o a1 a2 a3 a4, w => (sysPrctl o a1 a2 a3 a4 (onThread t w)).2.2
  | .clone p c, w => cloneThread p c w
  | .exit t, w => exitThread t w
  | .resched, w => schedStep w

def WF (w : World) : Prop := w.cur ∈ w.live

theorem onThread_wf (t : Tid) (w : World) (h : WF w) : WF (onThread t w) := by
  unfold onThread WF; split
  · assumption
  · exact h

theorem onThread_covered (id : FilterId) (t : Tid) (w : World) (h : Covered id w) : Covered id (onThread t w) := by
  unfold onThread; split <;> exact h

theorem enter_preserves (id : FilterId) (c : Tid → KCall) (w : World) (hwf : WF w) (h : Covered id w) :
    WF (w.enter c) ∧ Covered id (w.enter c) :=
  ⟨by unfold WF; rw [World.enter_live, World.enter_cur]; exact schedStep_cur_live w hwf,
    fun t ht => by rw [World.enter_thr]; exact h t (by simpa using ht)⟩

theorem upd_preserves (id : FilterId) (t : Tid) (th : Thread) (hth : id ∈ th.filters) (v : World) (hwf : WF v)
    (h : Covered id v) : WF (v.upd t th) ∧ Covered id (v.upd t th) := by
  refine ⟨hwf, fun t' ht' => ?_⟩
  by_cases e : t' = t
  · rw [e, World.upd_thr_self]; exact hth
  · rw [World.upd_thr_ne e]; exact h t' ht'

/-- chains only grow, and a synchronised thread gets the covered caller's chain -/
theorem attach_preserves (id : FilterId) (flags : Nat) (id' : FilterId) (v : World) (hwf : WF v)
    (h : Covered id v) : WF (attach flags id' v) ∧ Covered id (attach flags id' v) := by
  refine ⟨by unfold WF; rw [attach_cur, attach_live]; exact hwf, fun t ht => ?_⟩
  rcases attach_thr flags id' v t with e | e <;> rw [e]
  · exact h t (by simpa using ht)
  · exact List.mem_cons_of_mem _ (h _ hwf)

theorem sysSeccomp_preserves (id : FilterId) (op flags : Nat) (uargs : Option Prog) (w : World)
    (hwf : WF w) (h : Covered id w) :
    WF (sysSeccomp op flags uargs w).2.2 ∧ Covered id (sysSeccomp op flags uargs w).2.2 := by
  obtain ⟨hwf', h'⟩ := enter_preserves id (.seccomp · op flags uargs) w hwf h
  by_cases hop : op = 1
  · subst hop
    have hk := sysSeccomp_filter flags uargs w
    generalize sysSeccomp 1 flags uargs w = r at hk
    cases hk with
    | attached => exact attach_preserves id _ _ _ hwf' h'
    | refused => exact ⟨hwf', h'⟩
  · rcases sysSeccomp_other op flags uargs w hop with e | e <;> rw [e]
    · exact ⟨hwf', h'⟩
    · refine upd_preserves id _ _ ?_ _ hwf' h'
      exact h _ (schedStep_cur_live w hwf)

theorem sysPrctl_preserves (id : FilterId) (o a1 a2 a3 a4 : Nat) (w : World) (hwf : WF w) (h : Covered id w) :
    WF (sysPrctl o a1 a2 a3 a4 w).2.2 ∧ Covered id (sysPrctl o a1 a2 a3 a4 w).2.2 := by
  obtain ⟨hwf', h'⟩ := enter_preserves id (.prctl · o a1 a2 a3 a4) w hwf h
  rw [sysPrctl_eq]
  split
  · split
    · refine upd_preserves id _ _ ?_ _ hwf' h'
      exact h _ (schedStep_cur_live w hwf)
    · exact ⟨hwf', h'⟩
  · exact ⟨hwf', h'⟩

theorem cloneThread_preserves (id : FilterId) (p c : Tid) (w : World) (hwf : WF w) (h : Covered id w) :
    WF (cloneThread p c w) ∧ Covered id (cloneThread p c w) := by
  unfold cloneThread
  by_cases hpc : p ∈ w.live ∧ c ∉ w.live
  · rw [if_pos hpc]
    refine ⟨List.mem_cons_of_mem _ hwf, fun t ht => ?_⟩
    show id ∈ (if t = c then w.thr p else w.thr t).filters
    by_cases htc : t = c
    · rw [if_pos htc]; exact h p hpc.1
    · rw [if_neg htc]; exact h t ((List.mem_cons.1 ht).resolve_left htc)
  · rw [if_neg hpc]; exact ⟨hwf, h⟩

theorem exitThread_preserves (id : FilterId) (t : Tid) (w : World) (hwf : WF w) (h : Covered id w) :
    WF (exitThread t w) ∧ Covered id (exitThread t w) := by
  unfold exitThread
  by_cases hne : t ≠ w.cur
  · rw [if_pos hne]
    exact ⟨List.mem_filter.2 ⟨hwf, decide_eq_true (Ne.symm hne)⟩, fun t' ht' => h t' (List.mem_filter.1 ht').1⟩
  · rw [if_neg hne]; exact ⟨hwf, h⟩

theorem step_preserves (id : FilterId) (s : Step) (w : World) (hwf : WF w) (h : Covered id w) :
    WF (s.apply w) ∧ Covered id (s.apply w) := by
  cases s with
  | seccompBy t op flags uargs =>
    exact sysSeccomp_preserves id op flags uargs _ (onThread_wf t w hwf) (onThread_covered id t w h)
  | prctlBy t o a1 a2 a3 a4 =>
    exact sysPrctl_preserves id o a1 a2 a3 a4 _ (onThread_wf t w hwf) (onThread_covered id t w h)
  | clone p c => exact cloneThread_preserves id p c w hwf h
  | exit t => exact exitThread_preserves id t w hwf h
  | resched =>
    obtain ⟨c, s, e, hl⟩ := schedStep_eq w
    simp only [Step.apply, e]
    exact ⟨hl hwf, h⟩

theorem steps_preserve (id : FilterId) (later : List Step) (w : World) (hwf : WF w) (h : Covered id w) :
    WF (later.foldl (fun w s => s.apply w) w) ∧ Covered id (later.foldl (fun w s => s.apply w) w) := by
  induction later generalizing w with
  | nil => exact ⟨hwf, h⟩
  | cons s rest ih =>
    obtain ⟨h1, h2⟩ := step_preserves id s w hwf h
    exact ih _ h1 h2

/-- **Every thread existing at that moment and every thread created afterwards stays subject to the
    filter**, whatever the threads do, in whatever order: induction over all later histories. -/
theorem tsync_covers_all_threads (U : Unsupported) (filter : Filter) (w w' : World) (hc : w.cur ∈ w.live)
    (h : Gen.loadFilter U filter w = (GoErr.nil, w')) (hts : filter.flag &&& FLAG_TSYNC ≠ 0)
    (later : List Step) :
    ∃ p, filter.policy = .prog p ∧ Covered p.id (later.foldl (fun w s => s.apply w) w') := by
  obtain ⟨p, hp, hcov⟩ := tsync_covers_existing U filter w w' hc h hts
  have hwf : WF w' := by
    obtain ⟨q, -, -, -, rfl⟩ := gen_loadFilter_nil h
    exact callWorld_cur_live filter hc
  exact ⟨p, hp, (steps_preserve p.id later w' hwf hcov).2⟩

/-- **Without thread-sync other threads are left untouched**: only the thread the call ran on can
    change (its chain, and its no_new_privs bit if that was requested). -/
theorem no_tsync_touches_caller_only (U : Unsupported) (filter : Filter) (w : World)
    (hts : filter.flag &&& FLAG_TSYNC = 0) (t : Tid) (ht : t ≠ C09.callThread filter w) (ht' : t ≠ w.cur) :
    (Gen.loadFilter U filter w).2.thr t = w.thr t := by
  obtain ⟨c, w', o, -, -, hw⟩ := gen_load_outcome U filter w
  rw [hw]
  have hpre : (callWorld filter w).thr t = w.thr t := (callWorld_thr filter w t).resolve_right (ht' ·.1)
  cases o with
  | noProgram | nnpRefused => rfl
  | declined => exact hpre
  | installed => exact (attach_thr_ne hts _ (callWorld filter w) fun e => ht (e.trans (callWorld_cur filter w))).trans hpre

/-! ### non-vacuity: four threads, thread-sync load from thread 2, then a clone and more activity -/

def fourThreads : World :=
  { thr := fun _ => {}, live := [1, 2, 3, 4], cur := 2, privileged := false, sched := [3, 1] }

theorem tsync_example :
    let r := Gen.loadFilter C09.noU { noNewPrivs := true, flag := 3, policy := .prog C09.goodProg } fourThreads
    r.1 = GoErr.nil ∧
    (([Step.clone 4 9, .seccompBy 9 1 0 (some { id := 5, len := 3, ok := true }), .exit 1].foldl
        (fun w s => s.apply w) r.2).live.all fun t =>
      (([Step.clone 4 9, .seccompBy 9 1 0 (some { id := 5, len := 3, ok := true }), .exit 1].foldl
        (fun w s => s.apply w) r.2).thr t).filters.contains 42) = true := by
  decide +kernel

end C10
