import Seccomp.Proofs.C01
/-!
# C04 — foreign-architecture and x32 events never reach the rules
-/

namespace C04

/-- **Foreign architecture ⇒ default action**, whatever the number and the arguments, for programs of
    every size (both encodings of the architecture jump are covered by `prologue_spec`). -/
theorem foreign_arch_default (A : ArchInfo) (e : Endian) (p : Policy) (prog : List Instr)
    (h : assemblePolicy (some A) (Layout.ofEndian e) p = .ok prog) (ev : Event) (hf : ev.arch ≠ A.id) (a0 : Word) :
    run (words e ev) prog a0 = .ret (enc p.default) := by
  rw [C01.compile_correct A e p prog h ev a0, Spec.decision_eq, if_pos hf]

/-- **x32 ⇒ ERRNO(ENOSYS) on x86_64**, whatever the policy contains. -/
theorem x32_enosys (A : ArchInfo) (e : Endian) (p : Policy) (prog : List Instr)
    (h : assemblePolicy (some A) (Layout.ofEndian e) p = .ok prog) (ev : Event)
    (hx : A.id = auditArchX86_64) (ha : ev.arch = A.id) (hn : ev.nr.toNat ≥ 0x40000000) (a0 : Word) :
    run (words e ev) prog a0 = .ret 0x00050026#32 := by
  rw [C01.compile_correct A e p prog h ev a0, Spec.decision_eq, if_neg (not_not_intro ha), if_pos ⟨hx, hn⟩]
  rfl

/-- the value is SECCOMP_RET_ERRNO | ENOSYS(38) -/
theorem enosys_value : (0x00050026#32 : Word) = actErrno ||| 38#32 := by decide

/-- the guard exists on x86_64 only: elsewhere numbers ≥ 0x40000000 are ordinary numbers -/
theorem no_x32_guard_elsewhere (A : ArchInfo) (ev : Event) (hx : A.id ≠ auditArchX86_64) (ha : ev.arch = A.id) :
    C01.Native A ev := ⟨ha, fun h => hx h.1⟩

/-- **The prologue alone**: whatever code `pre` the groups produced,
    and for both forms of the architecture jump (8-bit skip up to 255, `jeq; ja` beyond), a foreign
    architecture lands on the final return and an x32 number on the ENOSYS return. -/
theorem prologue (w : Nat → Word) (ar : ArchI) (pre : List Instr) (d : Word) (a0 : Word) :
    run w (policyProg ar (pre ++ [.ret d])) a0 =
      if w 4 ≠ ar.id then .ret d
      else if ar.x86 = true ∧ x32Bit.ule (w 0) = true then .ret enosys
      else run w (pre ++ [.ret d]) (w 0) :=
  prologue_spec w ar pre d a0

theorem arch_jump_forms (ar : ArchI) (body : List Instr) :
    ((x32Filter ar.x86 ++ body).length ≤ 255 →
      (policyProg ar body).take 2 = [.ld 4, .jif .ne ar.id (x32Filter ar.x86 ++ body).length 0]) ∧
    (¬ (x32Filter ar.x86 ++ body).length ≤ 255 →
      (policyProg ar body).take 3 = [.ld 4, .jif .eq ar.id 1 0, .ja (x32Filter ar.x86 ++ body).length]) := by
  constructor <;> intro h <;> simp only [policyProg, h, if_true, if_false] <;> rfl

/-! ### non-vacuity: an accepted x86_64 policy, an x32 event and a foreign event that meet the hypotheses -/

def x86 : ArchInfo := { C01.tinyArch with id := auditArchX86_64, name := "x86_64" }

def x32Event : Event := { nr := 0x40000001#32, arch := auditArchX86_64, ip := 0#64, args := fun _ => 0#64 }
def foreignEvent : Event := { nr := 1#32, arch := 0x40000003#32, ip := 0#64, args := fun _ => 0#64 }

theorem accepted : (assemblePolicy (some x86) (Layout.ofEndian .little) C01.twoGroups).toOption.isSome = true := by
  decide +kernel
theorem x32Event_hyp : x86.id = auditArchX86_64 ∧ x32Event.arch = x86.id ∧ x32Event.nr.toNat ≥ 0x40000000 := by decide
theorem foreignEvent_hyp : foreignEvent.arch ≠ x86.id := by decide

end C04
