import Seccomp.Proofs.Lemmas.LoaderLemmas
import Seccomp.Proofs.Lemmas.ChainLemmas
/-!
# C09 — a nil load result means the filter is in force; failed loads leave none behind

All theorems are about `Gen.loadFilter` / `Gen.supported`, the Lean rendering of `LoadFilter` and
`Supported` that `vextract` regenerates from seccomp_linux.go on every run, executed against the
abstract kernel of `Model/Kernel.lean`.  They hold for every world (thread set, chains, privileges),
every schedule oracle, every filter, and every behaviour `U` of statements outside the translated
subset (there are none on the current tree: `Gen.skeletonNotes = []`).
-/

namespace C09

/-- **nil ⇒ in force.**  If `LoadFilter` returns nil, the policy assembled, and its program heads the
    filter chain of the thread the call ran on — and of every live thread if thread-sync was in the
    flag word. -/
theorem load_nil_implies_installed (U : Unsupported) (filter : Filter) (w w' : World)
    (hc : w.cur ∈ w.live) (h : Gen.loadFilter U filter w = (GoErr.nil, w')) :
    ∃ p, filter.policy = .prog p ∧
      (w'.thr w'.cur).filters.head? = some p.id ∧
      (filter.flag &&& FLAG_TSYNC ≠ 0 → ∀ t ∈ w'.live, (w'.thr t).filters.head? = some p.id) := by
  obtain ⟨p, hp, -, -, rfl⟩ := gen_loadFilter_nil h
  exact ⟨p, hp, congrArg List.head? (attach_filters_cur filter.flag p.id (callWorld_cur_live filter hc)),
    fun hts t ht => congrArg List.head? (attach_filters_all (v := callWorld filter w) hts p.id ht)⟩

/-- **A failed load leaves no filter behind**: whenever the result is not nil, every thread's filter
    chain is what it was before the call. -/
theorem failed_load_attaches_nothing (U : Unsupported) (filter : Filter) (w : World)
    (h : (Gen.loadFilter U filter w).1 ≠ GoErr.nil) :
    ∀ t, ((Gen.loadFilter U filter w).2.thr t).filters = (w.thr t).filters := by
  obtain ⟨c, w', o, hnil, -, hw⟩ := gen_load_outcome U filter w
  rw [hw]
  cases o with
  | noProgram | nnpRefused => exact fun _ => rfl
  | declined => exact callWorld_filters filter w
  | installed => exact absurd (hnil.2 rfl) h

/-- **Every way the kernel declines is reported**: unknown flag bits, a program the verifier rejects
    (or of length 0 / above 4096 after the 16-bit length field), a kernel without the seccomp syscall
    (ENOSYS), missing privilege (no no_new_privs on the calling thread and no CAP_SYS_ADMIN), and a
    thread-sync refused because another thread carries a chain that is not an ancestor of the caller's —
    each gives a non-nil error. -/
theorem kernel_refusal_is_error (U : Unsupported) (filter : Filter) (p : Prog) (hp : filter.policy = .prog p)
    (w : World)
    (hwhy : filter.flag &&& knownFlags ≠ filter.flag ∨
      p.ok = false ∨ p.len % 65536 = 0 ∨ p.len % 65536 > BPF_MAXINSNS ∨
      (((preInstall filter w).thr (callThread filter w)).nnp = false ∧ w.privileged = false) ∨
      (filter.flag &&& FLAG_TSYNC ≠ 0 ∧ ∃ t ∈ w.live, t ≠ callThread filter w ∧
        (w.thr t).filters.isSuffixOf (w.thr (callThread filter w)).filters = false) ∨
      w.seccompAvailable = false) :
    (Gen.loadFilter U filter w).1 ≠ GoErr.nil := by
  intro hnil
  obtain ⟨q, hq, -, a, -⟩ := gen_loadFilter_nil (Prod.ext hnil rfl)
  cases hp.symm.trans hq
  rcases hwhy with h | h | h | h | ⟨h1, h2⟩ | ⟨h1, t, ht, htc, hdiv⟩ | h
  · exact h a.known
  · exact absurd (a.ok.symm.trans h) nofun
  · exact a.len.1 h
  · exact Nat.not_le_of_gt h a.len.2
  · rcases a.priv with h | h
    · rw [callWorld_thr_pre, callWorld_cur] at h
      exact absurd (h.symm.trans h1) nofun
    · rw [callWorld_priv, h2] at h; cases h
  · have := a.sync h1 t (by rw [callWorld_live]; exact ht) (by rw [callWorld_cur]; exact htc)
    rw [callWorld_filters, callWorld_filters, callWorld_cur] at this
    exact absurd (this.symm.trans hdiv) nofun
  · rw [← callWorld_avail filter w, a.avail] at h; cases h

/-- **A refused `prctl` is reported too, and `seccomp` is then never called**: the result is a non-nil error
    carrying the kernel's errno, no thread's state changes (no filter, no bit), and the only kernel call made
    is the `prctl`. -/
theorem nnp_refusal_is_error (U : Unsupported) (filter : Filter) (p : Prog) (hp : filter.policy = .prog p)
    (w : World) (hn : filter.noNewPrivs = true) (ha : w.nnpAvailable = false) :
    (Gen.loadFilter U filter w).1.cls = .errno EINVAL ∧
    (Gen.loadFilter U filter w).2.thr = w.thr ∧
    (Gen.loadFilter U filter w).2.log = .prctl w.cur 38 1 0 0 0 :: w.log ∧
    (Gen.loadFilter U filter w).2.lockCount = w.lockCount := by
  obtain ⟨c, w', o, -, hcls, hw⟩ := gen_load_outcome U filter w
  rw [hcls, hw]
  cases o with
  | noProgram h => exact absurd hp (h p)
  | nnpRefused => exact ⟨rfl, rfl, rfl, rfl⟩
  | declined _ _ hnf | installed _ _ hnf => exact absurd ⟨hn, ha⟩ hnf

/-- **A load that fails before reaching the kernel changes nothing**: no filter, no no_new_privs bit,
    no kernel call at all (the world, including its call log, is the same). -/
theorem failed_assemble_leaves_nothing (U : Unsupported) (filter : Filter) (w : World)
    (hp : filter.policy = .assembleFails ∨ filter.policy = .encodeFails) :
    (Gen.loadFilter U filter w).1 ≠ GoErr.nil ∧ (Gen.loadFilter U filter w).2 = w := by
  obtain ⟨c, w', o, hnil, -, hw⟩ := gen_load_outcome U filter w
  rw [Ne, hnil, hw]
  have hp (p : Prog) : filter.policy ≠ .prog p := by rcases hp with h | h <;> simp [h]
  cases o with
  | noProgram => exact ⟨nofun, rfl⟩
  | nnpRefused p h | declined p h | installed p h => exact absurd h (hp p)

/-- **Probing for support never changes process state**: `Supported()` issues strict mode with flags 1,
    which a kernel that has the syscall answers EINVAL (and one that has not, ENOSYS; one where a profile
    denies it, EPERM or EACCES — every `World.refusal`): it reports exactly whether the syscall is usable,
    and no thread's state is touched. -/
theorem probe_pure (U : Unsupported) (w : World) :
    (Gen.supported U w).1 = w.seccompAvailable ∧ (Gen.supported U w).2.thr = w.thr ∧
      (Gen.supported U w).2.live = w.live := by
  rw [gen_supported_char, sysSeccomp_probe]
  exact ⟨rfl, World.enter_thr _ _, World.enter_live _ _⟩

/-- **Tie between the regenerated loader and the specification used by the live correspondence**:
    `Gen.loadFilter` leaves the world `LoaderSpec.load` leaves and returns an error of the same observable
    class (nil / errno n / other); same for `Supported`.  The live histories compare the real `LoadFilter`
    with `LoaderSpec` on the running kernel. -/
theorem translator_tie (U : Unsupported) (filter : Filter) (w : World) :
    ((Gen.loadFilter U filter w).1.cls, (Gen.loadFilter U filter w).2) = LoaderSpec.load filter w ∧
    Gen.supported U w = LoaderSpec.supported w :=
  ⟨gen_loadFilter_eq_spec U filter w, gen_supported_eq_spec U w⟩

/-- the translator rendered every statement of the loader (nothing was left to the oracle `U`) -/
theorem skeleton_complete : Gen.skeletonNotes = [] := rfl

/-- **nil ⇒ the policy is enforced, whatever else is attached.**  After a nil result, for every event —
    `val` gives each attached filter's answer to it — the calling thread's decision is at most as permissive
    as the new filter's answer, and with thread-sync in the flag word so is every live thread's: earlier loads
    (this process's own or inherited ones) can only restrict further, never undo the new policy. -/
theorem load_nil_enforces (U : Unsupported) (filter : Filter) (w w' : World)
    (hc : w.cur ∈ w.live) (h : Gen.loadFilter U filter w = (GoErr.nil, w')) (val : FilterId → Word) :
    ∃ p, filter.policy = .prog p ∧
      Chain.actionOnly (Chain.chain ((w'.thr w'.cur).filters.map val)) ≤ Chain.actionOnly (val p.id) ∧
      (filter.flag &&& FLAG_TSYNC ≠ 0 → ∀ t ∈ w'.live,
        Chain.actionOnly (Chain.chain ((w'.thr t).filters.map val)) ≤ Chain.actionOnly (val p.id)) := by
  obtain ⟨p, hp, hcur, hall⟩ := load_nil_implies_installed U filter w w' hc h
  have key (fs : List FilterId) (hfs : fs.head? = some p.id) :
      Chain.actionOnly (Chain.chain (fs.map val)) ≤ Chain.actionOnly (val p.id) :=
    Chain.chain_le_of_mem (List.mem_map_of_mem (List.mem_of_mem_head? hfs))
  exact ⟨p, hp, key _ hcur, fun ht t hl => key _ (hall ht t hl)⟩

def noU : Unsupported := { step := fun _ w => w, noReturnErr := .nil, noReturnBool := false }

def divergent : World :=
  { thr := fun t => if t = 2 then { filters := [7] } else {}, live := [1, 2], cur := 1, privileged := true }

def goodProg : Prog := { id := 42, len := 20, ok := true }

/-- DESIGN §7 F5: a refused thread-sync (thread 2 carries a filter the caller lacks) is reported as an error -/
theorem tsync_refused_example :
    (Gen.loadFilter noU { noNewPrivs := true, flag := 1, policy := .prog goodProg } divergent).1 ≠ GoErr.nil := by
  decide +kernel

theorem success_example :
    (Gen.loadFilter noU { noNewPrivs := true, flag := 0, policy := .prog goodProg }
      { thr := fun _ => {}, live := [1], cur := 1, privileged := false }).1 = GoErr.nil := by
  decide +kernel

/-- SECCOMP_FILTER_FLAG_NEW_LISTENER: the kernel answers with a positive descriptor and errno 0 — a success,
    not a thread-sync refusal -/
theorem listener_example :
    (Gen.loadFilter noU { noNewPrivs := true, flag := 8, policy := .prog goodProg }
      { thr := fun _ => {}, live := [1], cur := 1, privileged := false }).1 = GoErr.nil ∧
    (sysSeccomp 1 8 (some goodProg) { thr := fun _ => { nnp := true }, live := [1], cur := 1, privileged := false }).1 ≠ 0 := by
  decide +kernel

theorem probe_denied_example :
    let w : World := { thr := fun _ => {}, live := [1], cur := 1, privileged := true,
                       seccompAvailable := false, refusal := .eperm }
    (Gen.supported noU w).1 = false ∧ ((Gen.supported noU w).2.thr 1).nnp = false := by
  decide +kernel

end C09
