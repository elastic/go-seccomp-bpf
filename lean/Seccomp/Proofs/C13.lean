import Seccomp.Model.Text
import Seccomp.Model.Policy
import Seccomp.Gen.Purity
import Seccomp.Proofs.Lemmas.TextLemmas
import Seccomp.Proofs.C14
/-!
# C13 — compilation is deterministic, side-effect free and race-free   (partial)

Proved, for all inputs: the text of a flag or action value is a function of the value, whatever the iteration order of
the map the names are looked up in (`text_deterministic`, `action_text_function`, `unpack_order_independent`); the model
compiler is a function (`compile_is_function`, trivial: it is a Lean function); and `compile_pure`, about `Gen.Purity`,
the regenerated effect summary of the real compiler's static call graph.

*Partial* (DESIGN.md §6 C13): freedom from data races under **all** schedules is not a theorem.  The purity facts are a
syntactic summary (static call graph, no aliasing analysis beyond "fresh local slice"); their consequence for concurrent
runs is monitored by the `purity` correspondence stream (repeated / concurrent / cross-process compiles, deep comparison of
the policy, `-race` builds in the thorough tier).
-/

namespace C13
open Text

theorem flag_keys_unique : KeysUnique Gen.filterFlagNames := by decide +kernel
theorem action_keys_unique : KeysUnique Gen.actionNames := C14.action_keys_unique
theorem action_names_unique : NamesUnique Gen.actionNames := C14.action_names_unique

/-- **The text form of a flag value is a deterministic function of the value.**  (1) `FilterFlag.String` contains no
    `range` over a map and its flag loop ranges over a literal slice of constants (facts regenerated from the source:
    go/types says what the `range` expressions are); (2) the slice covers exactly the named flags; (3) for every iteration
    order of the map `filterFlagNames` the result is the same: the map is only looked up. -/
theorem text_deterministic :
    (Gen.flagStringRangesOverMap = false ∧ Gen.flagOrderKnown = true) ∧
    (Gen.flagOrder = Gen.filterFlagNames.map (·.1)) ∧
    (∀ (mapOrder : List (Nat × String)), mapOrder.Perm Gen.filterFlagNames → ∀ f,
       flagString mapOrder Gen.flagOrder f = flagString Gen.filterFlagNames Gen.flagOrder f) ∧
    (∀ f, flagStringNow f = flagString Gen.filterFlagNames Gen.flagOrder f) := by
  refine ⟨⟨rfl, rfl⟩, rfl, fun mapOrder hperm f => ?_, fun f => ?_⟩
  · simp only [flagString, flagStringCore, lookupName, List.find?_key_perm Prod.fst hperm flag_keys_unique]
    rfl
  · simp [flagStringNow, show Gen.flagStringRangesOverMap = false from rfl]

/-- the pinned tree's loop (`for flag, name := range filterFlagNames`) is *not* a function of the value: the two iteration
    orders of the map give two different texts for `f = 3` (F8) -/
example :
    flagStringMapOrder [(1, "tsync"), (2, "log")] 3 = "tsync|log" ∧
    flagStringMapOrder [(2, "log"), (1, "tsync")] 3 = "log|tsync" := by decide +kernel

/-- non-vacuity: what the present source prints -/
example : (List.range 8).map flagStringNow =
    ["", "tsync", "log", "tsync|log", "unknown", "tsync|unknown", "log|unknown", "tsync|log|unknown"] := by decide +kernel

/-- **The text form of an action value is a function of the value**: the lookup gives the same string for every
    iteration order of `actionNames`. -/
theorem action_text_function (order : List (Nat × String)) (h : order.Perm Gen.actionNames) (a : Nat) :
    actionStringWith order a = actionStringWith Gen.actionNames a := by
  unfold actionStringWith
  rw [List.find?_key_perm Prod.fst h action_keys_unique]

/-- **`Action.Unpack` ranges over the map `actionNames` and still returns the same value for every
    iteration order**, because the names are pairwise distinct: at most one entry matches.  Stated for
    the function body regenerated from the source (`Gen.actionUnpackSkel`, the `range` as a loop over the
    entries in the given order). -/
theorem unpack_order_independent :
    Gen.actionUnpackRangeKind = "map" ∧
    ∀ (order : List (Nat × String)), order.Perm Gen.actionNames → ∀ rs,
      Gen.actionUnpackSkel order rs = toURes (unpackActionRunes rs) := by
  refine ⟨rfl, fun order h rs => ?_⟩
  simp only [C14.action_unpack_tie, unpackActionRunes, unpackWith, if_true, Bool.false_eq_true, if_false]
  rw [List.find?_key_perm (fun e : Nat × String => runes e.2) h action_names_unique]

theorem operation_unpack_ranges_over_slice :
    Gen.operationUnpackRangeKind = "slice" ∧ Gen.operationUnpackRangeExpr = "Operations" := ⟨rfl, rfl⟩

/-- **Compiling is a function of (architecture, byte order, policy)**: trivial for the model — `assemblePolicy` is a
    total Lean function without state.  The content of C13 for the real code is the tie (exact-output correspondence,
    repeated and concurrent) plus `compile_pure`. -/
theorem compile_is_function (A : Option ArchInfo) (ly : Layout) (p q : Policy) (h : p = q) :
    assemblePolicy A ly p = assemblePolicy A ly q := by rw [h]

def compileGraph : List String :=
  match Gen.Purity.reach.find? (fun r => r.1 == "Policy.Assemble") with
  | some r => r.2
  | none => []

/-- types of the objects that are reachable from a caller's `*Policy` (struct values, backing arrays, maps) -/
def policyMemoryTypes : List String := [
  "Policy", "[]SyscallGroup", "SyscallGroup", "[]string", "string", "[]NameWithConditions", "NameWithConditions",
  "ArgumentConditions", "[]Condition", "Condition", "Action", "Operation", "uint32", "uint64",
  "*arch.Info", "arch.Info", "map[string]int", "map[int]string", "arch.AuditArch", "int"]

/-- the one store into policy memory the compiler may make: the unexported architecture cache of a `Policy`, reached through a
    receiver, a parameter or a local pointer -/
def archCachePaths : List String := ["recv-ptr.arch", "param.arch", "local.arch"]

/-- `range` over a map, allowed because the loop body is order-independent:
    * `Program.Assemble`: `for label, indices := range p.labels { … labelsAt[index] = append(labelsAt[index], label) }` — the only
      use of `labelsAt[i]` is `for _, label := range labelsAt[i] { dest[label] = len(out) }`, which stores the *same* value for every
      label of the list (`labels_order_irrelevant` below);
    * `Action.Unpack`: `unpack_order_independent` above. -/
def allowedMapRanges : List (String × String) := [("Program.Assemble", "recv-ptr.labels"), ("Action.Unpack", "actionNames")]

/-- package-level variables the compiler and the text conversions read: the name tables, `Operations`, the two `arch.Info` values compared
    by pointer, the alias map, the byte order determined in `init` -/
def allowedReads : List String := [
  "actionNames", "filterFlagNames", "Operations", "nativeEndian", "arch.X32", "arch.X86_64", "arch.arches",
  "encoding/binary.LittleEndian", "encoding/binary.BigEndian"]

/-- library functions that receive caller-reachable memory: they only read it -/
def readOnlyCallees : List String := ["strings.Join"]

/-- the model of the label loop: storing the same value under every label of a list -/
def setAll (ls : List Nat) (v : Nat) (d : Nat → Option Nat) : Nat → Option Nat :=
  ls.foldl (fun d l => fun k => if k = l then some v else d k) d

theorem setAll_apply (ls : List Nat) (v : Nat) (d : Nat → Option Nat) (k : Nat) :
    setAll ls v d k = if k ∈ ls then some v else d k := by
  unfold setAll
  induction ls generalizing d with
  | nil => simp
  | cons l rest ih => rw [List.foldl_cons, ih]; by_cases h1 : k ∈ rest <;> by_cases h2 : k = l <;> simp [h1, h2]

/-- `for _, label := range labelsAt[i] { dest[label] = len(out) }` gives the same `dest` for every order in which the map
    iteration delivered the labels -/
theorem labels_order_irrelevant (l₁ l₂ : List Nat) (h : l₁.Perm l₂) (v : Nat) (d : Nat → Option Nat) :
    setAll l₁ v d = setAll l₂ v d := by
  funext k
  rw [setAll_apply, setAll_apply]
  simp only [h.mem_iff]

/-- Applied along a conjunction it collects the `Decidable` instances conjunct by conjunct, where instance synthesis
    gives up on the whole, and still leaves one Boolean to evaluate. -/
theorem and_of_decide {p q : Prop} [Decidable p] {b : Bool} (hq : b = true → q) (h : (decide p && b) = true) :
    p ∧ q := by
  rw [Bool.and_eq_true, decide_eq_true_iff] at h
  exact ⟨h.1, hq h.2⟩

/-- **The real compiler's call graph has no effect outside fresh memory** (regenerated syntactic summary):
    1. the graph is the expected one (non-vacuity: it contains the group compiler and the label resolver);
    2. no `go` statement in any reachable function (compiler, text conversions, `arch.GetInfo`);
    3. every `range` over a map is one of the two order-independent loops, and only the range over the receiver's `labels` is in
       the compile graph (expressions are compared by their *path* — the root variable replaced by its kind (receiver,
       parameter, local), field names kept — so that renaming a variable changes nothing);
    4. no store is rooted in a package-level variable or in an expression the translator could not resolve;
    5. in the compile graph the only store into an object of a type reachable from the caller's policy is the one into the field
       `arch` of a `Policy` (the unexported architecture cache), so **no exported field
       of the caller's policy, no element of its slices and no `arch.Info` table is ever written**;  all other stores through
       receivers or parameters write objects of types that do not occur in policy memory (the `Program` builder created by
       `NewProgram()` inside the graph and whatever helper structures the compiler allocates itself);
    6. memory that can be shared with the caller is passed to no function outside the module except `strings.Join` (reads) and
       `append`, and an `append` whose destination has a policy-memory type (`[]string`) appends to a *fresh local* slice
       (declared nil / `make` / literal, only ever re-assigned from `append` of itself);
    7. the text conversions store only into their declared output (`*a = action`, `*o = name`) or a by-value receiver copy;
    8. every package-level variable read is in the list above, and none of these is written anywhere in the module outside `init`. -/
theorem compile_pure :
    (["Policy.Assemble", "Policy.Validate", "SyscallGroup.assemble", "SyscallGroup.toSyscallsWithConditions",
        "SyscallWithConditions.Assemble", "Program.Assemble", "ArgumentConditions.Validate", "arch.GetInfo"].all compileGraph.contains = true) ∧
    Gen.Purity.goStmts = [] ∧
    (∀ m ∈ Gen.Purity.mapRanges, (m.fn, m.text) ∈ allowedMapRanges ∧
        (m.fn ∈ compileGraph → (m.fn, m.text) = ("Program.Assemble", "recv-ptr.labels"))) ∧
    (∀ s ∈ Gen.Purity.stores, s.rootKind ≠ "pkgvar" ∧ s.rootKind ≠ "complex") ∧
    (∀ s ∈ Gen.Purity.stores, s.fn ∈ compileGraph →
        (s.objType ∈ policyMemoryTypes → s.objType = "Policy" ∧ s.path ∈ archCachePaths) ∧
        (s.rootKind = "recv-ptr" ∨ s.rootKind = "param" ∨ s.rootKind = "recv-val" →
            s.objType ∉ policyMemoryTypes ∨ (s.objType = "Policy" ∧ s.path ∈ archCachePaths))) ∧
    (∀ c ∈ Gen.Purity.extCalls, c.fn ∈ compileGraph →
        c.callee ∈ readOnlyCallees ∨ (c.callee = "append" ∧ (c.dstType ∉ policyMemoryTypes ∨ c.dstFresh = true))) ∧
    (∀ s ∈ Gen.Purity.stores, s.fn ∉ compileGraph →
        (s.fn, s.path) ∈ [("Action.Unpack", "*recv-ptr"), ("Operation.Unpack", "*recv-ptr")] ∨
        (s.rootKind = "recv-val" ∧ s.deref = false)) ∧
    (∀ r ∈ Gen.Purity.pkgVarReads, r.2 ∈ allowedReads) ∧
    (∀ w ∈ Gen.Purity.pkgVarWrites, w.root ∈ allowedReads → w.fn.startsWith "init@" = true) := by
  -- no `Decidable` instance is synthesised for the whole conjunction, nor for any group that holds the fifth
  -- conjunct.  With the instances taken one by one (the last four conjuncts together) it is still one evaluation, in
  -- which the kernel decodes the names the conjuncts share once.
  refine and_of_decide (and_of_decide (and_of_decide (and_of_decide (and_of_decide of_decide_eq_true)))) ?_
  decide +kernel

/-- the cache field is unexported (so "exported fields are never written" follows from item 5) -/
theorem arch_cache_is_unexported :
    ∀ st ∈ Gen.structTags, st.1 = "Policy" ∨ st.1 = "SyscallGroup" →
      ∃ f ∈ st.2, f.name = "arch" ∧ f.exported = false ∧ f.goType = "*arch.Info" := by decide +kernel

end C13
