import Seccomp.Proofs.Lemmas.RawLemmas
import Seccomp.Proofs.Lemmas.ChainLemmas
import Seccomp.Proofs.C01
/-!
# C08 — the installed filter enforces the policy on the running kernel  (partial)

What is proved: the raw encoding (`bpf.Assemble`, modelled by `encode`) means to the kernel's
interpreter (modelled by `runRaw`) exactly what the instruction list means, hence the kernel's
decision for every event is the specification's; the action classes the property names.
What is modelled, not verified: the kernel's classic-BPF interpreter and action handling
(`runRaw`, `outcome`) — the live correspondence loads generated policies through the real
`LoadFilter` and compares the kernel's observable decisions (success / EPERM / death by SIGSYS) with
`Spec.decision`, and the hook captures the exact array and length handed to the kernel.
-/

namespace C08

/-- **Encoding preserves meaning**, the flipped encodings of `≠ < ≤ ¬set` included. -/
theorem encode_preserves_meaning (w : Nat → Word) (prog : List Instr) (a : Word) :
    runRaw w (prog.map encode) a = run w prog a := by
  induction prog, a using run.induct w with
  | case1 a => rw [List.map_nil, runRaw, run]
  | case2 off rest _ ih => rw [List.map_cons, runRaw_encode_ld, run_ld, ih]
  | case3 k rest _ => rw [List.map_cons, runRaw_encode_ret, run_ret]
  | case4 n rest a ih => rw [List.map_cons, runRaw_encode_ja, run_ja, ← List.map_drop, ih]
  | case5 c k jt jf rest a ih => rw [List.map_cons, runRaw_encode_jif, run_jif, ← List.map_drop]; exact ih

/-- **The kernel's decision is the policy's**, for every accepted policy, both byte orders and every
    event (all 32-bit numbers, all argument values). -/
theorem kernel_decision_eq_spec (A : ArchInfo) (e : Endian) (p : Policy) (prog : List Instr)
    (h : assemblePolicy (some A) (Layout.ofEndian e) p = .ok prog) (ev : Event) (a0 : Word) :
    runRaw (words e ev) (prog.map encode) a0 = .ret (Spec.decision A p ev) := by
  rw [encode_preserves_meaning, C01.compile_correct A e p prog h ev a0]

/-- the 16-bit length field of `sock_fprog` holds the length of every program the kernel can accept -/
theorem image_length (prog : List Instr) (hlen : prog.length ≤ 4096) :
    (prog.map encode).length = prog.length ∧ prog.length % 65536 = prog.length := by
  refine ⟨List.length_map _, ?_⟩
  omega

def decode (r : RawInsn) : Option Instr :=
  if r.op = opLdAbsW then some (.ld r.k)
  else if r.op = opRetK then some (.ret (BitVec.ofNat 32 r.k))
  else if r.op = opJa then some (.ja r.k)
  else if r.op = opJeqK then some (.jif .eq (BitVec.ofNat 32 r.k) r.jt r.jf)
  else if r.op = opJgtK then some (.jif .gt (BitVec.ofNat 32 r.k) r.jt r.jf)
  else if r.op = opJgeK then some (.jif .ge (BitVec.ofNat 32 r.k) r.jt r.jf)
  else if r.op = opJsetK then some (.jif .set (BitVec.ofNat 32 r.k) r.jt r.jf)
  else none

/-- what the kernel does with a filter's return value (SECCOMP_RET_ACTION_FULL / SECCOMP_RET_DATA) -/
inductive Outcome where
  | allow | log | errno (e : Nat) | trap | trace | killThread | killProcess | userNotif | other
deriving DecidableEq, Repr

/-- `0x7fc00000` is SECCOMP_RET_USER_NOTIF, an action the policy language cannot name (`Model/Policy.lean` has
    no constant for it) -/
def outcome (v : Word) : Outcome :=
  let act := v &&& 0xffff0000#32
  if act = actAllow then .allow
  else if act = actLog then .log
  else if act = actErrno then .errno (v &&& 0xffff#32).toNat
  else if act = actTrap then .trap
  else if act = actTrace then .trace
  else if act = actKillThread then .killThread
  else if act = actKillProcess then .killProcess
  else if act = 0x7fc00000#32 then .userNotif
  else .other

/-- **The observable classes the property names**: an `errno` action makes the probe fail with EPERM,
    `allow` lets it through, `kill_process` kills; the x32 guard answers ENOSYS. -/
theorem outcome_classes :
    outcome (enc actErrno) = .errno 1 ∧ outcome (enc actAllow) = .allow ∧
    outcome (enc actKillProcess) = .killProcess ∧ outcome (enc actKillThread) = .killThread ∧
    outcome (enc actLog) = .log ∧ outcome (enc actTrap) = .trap ∧ outcome (enc actTrace) = .trace ∧
    outcome Spec.enosys = .errno 38 := by decide +kernel

theorem flipped_encoding_example :
    decode (encode (.jif .ne 7#32 3 5)) = some (.jif .eq 7#32 5 3) ∧
    decode (encode (.jif .lt 7#32 3 5)) = some (.jif .ge 7#32 5 3) := by decide +kernel

/-! ## Several filters on one thread (`seccomp_run_filters`, `Model/Chain.lean`)

A load history that succeeds more than once leaves a *chain* of filters; the kernel runs all of them and
keeps the most restrictive answer.  The theorems below say what the property's "the kernel's decisions equal
the policy's" becomes for such histories. -/

open Chain in
/-- the kernel's order of the actions; `0x7fc00000` is user_notif -/
theorem chain_precedence :
    actionOnly actKillProcess < actionOnly actKillThread ∧ actionOnly actKillThread < actionOnly actTrap ∧
    actionOnly actTrap < actionOnly actErrno ∧ actionOnly actErrno < actionOnly 0x7fc00000#32 ∧
    actionOnly 0x7fc00000#32 < actionOnly actTrace ∧ actionOnly actTrace < actionOnly actLog ∧
    actionOnly actLog < actionOnly actAllow ∧ actAllow = retAllow := by decide +kernel

/-- every filter of the chain returns its policy's decision; `pp` pairs each loaded policy with the program
    compiled from it -/
theorem kernel_chain_values (A : ArchInfo) (e : Endian) (pp : List (Policy × List Instr))
    (h : ∀ x ∈ pp, assemblePolicy (some A) (Layout.ofEndian e) x.1 = .ok x.2)
    (ev : Event) (a0 : Word) :
    pp.map (fun x => runRaw (words e ev) (x.2.map encode) a0) =
      pp.map (fun x => Result.ret (Spec.decision A x.1 ev)) := by
  apply List.map_congr_left
  intro x hx
  exact kernel_decision_eq_spec A e x.1 x.2 (h x hx) ev a0

/-- the decision of a chain of policies (newest first) -/
def chainDecision (A : ArchInfo) (ps : List Policy) (ev : Event) : Word :=
  Chain.chain (ps.map (fun p => Spec.decision A p ev))

/-- **One filter decides alone**: with a single filter the observable outcome is the policy's. -/
theorem chain_single_outcome (v : Word) : outcome (Chain.chain [v]) = outcome v := by
  show outcome (Chain.keep Chain.retAllow v) = outcome v
  rw [Chain.keep]
  by_cases h : Chain.actionOnly v < Chain.actionOnly Chain.retAllow
  · rw [if_pos h]
  · -- the start value is kept only if `v`'s action is `allow` as well
    have hv : outcome v = .allow := if_pos (Chain.mask_eq_allow_of_not_lt v h)
    rw [if_neg h, hv]
    rfl

/-- **Stacking never loosens**: the chain's answer is at most as permissive as every single filter's. -/
theorem chain_never_more_permissive (vs : List Word) (v : Word) (h : v ∈ vs) :
    Chain.actionOnly (Chain.chain vs) ≤ Chain.actionOnly v :=
  Chain.chain_le_of_mem h

/-- for policies: whatever else is loaded before or after, an event is never answered more permissively
    than policy `p` answers it -/
theorem chain_enforces_each_policy (A : ArchInfo) (ps : List Policy) (p : Policy) (hp : p ∈ ps) (ev : Event) :
    Chain.actionOnly (chainDecision A ps ev) ≤ Chain.actionOnly (Spec.decision A p ev) :=
  chain_never_more_permissive _ _ (List.mem_map.mpr ⟨p, hp, rfl⟩)

theorem chain_value_from_a_filter (vs : List Word) : Chain.chain vs = Chain.retAllow ∨ Chain.chain vs ∈ vs :=
  (Chain.runFrom_spec _ vs).2.imp_right And.left

theorem chain_cons_le (v : Word) (vs : List Word) :
    Chain.actionOnly (Chain.chain (v :: vs)) ≤ Chain.actionOnly (Chain.chain vs) := by
  unfold Chain.chain
  rw [Chain.runFrom]
  -- the answer without `v` is the start value or one of `vs`; the answer with `v` is below both
  have hle := (Chain.runFrom_spec (Chain.keep Chain.retAllow v) vs).1
  rcases (Chain.runFrom_spec Chain.retAllow vs).2 with h | h
  · rw [h]; exact Int.le_trans (hle _ List.mem_cons_self) (Chain.keep_le_left _ v)
  · exact hle _ (List.mem_cons_of_mem _ h.1)

theorem chain_all_allow (vs : List Word) (h : ∀ v ∈ vs, Chain.actionOnly v = Chain.actionOnly Chain.retAllow) :
    Chain.chain vs = Chain.retAllow :=
  (Chain.runFrom_spec _ vs).2.resolve_right fun ⟨hm, hlt⟩ => Int.lt_irrefl _ (h _ hm ▸ hlt)

/-- among equal actions the newest filter's value is kept (its errno is what the caller sees), and a
    killing filter wins wherever it stands -/
theorem chain_examples :
    Chain.chain [actErrno ||| 13#32, actErrno ||| 2#32] = actErrno ||| 13#32 ∧
    Chain.chain [actAllow, actErrno ||| 1#32, actLog] = actErrno ||| 1#32 ∧
    Chain.chain [actErrno ||| 1#32, actKillProcess, actAllow] = actKillProcess ∧
    Chain.chain [] = actAllow := by decide +kernel

/-! ## The 16-bit length field of `sock_fprog`

`LoadFilter` stores `uint16(len(program))`: for a program of 65536 instructions or more the kernel is shown only a
prefix (`len mod 65536` instructions, possibly none).  No such prefix can be attached: the long form of the
architecture jump (`ja jumpN`, third instruction, `jumpN ≥ 65532`) points far beyond any prefix the kernel would take
(≤ 4096 instructions), and a prefix shorter than that jump does not end in a return.  So an oversize policy can only
fail to load (C09), never install a truncated filter. -/

theorem policyProg_prefix_rejected (ar : ArchI) (body : List Instr) (k : Nat)
    (hlen : 65536 ≤ (policyProg ar body).length) (hk : k ≤ 4096) :
    kernelAccepts (((policyProg ar body).map encode).take k) = false := by
  unfold policyProg at hlen ⊢
  generalize x32Filter ar.x86 ++ body = rest at hlen ⊢
  -- a program that long has the long form of the architecture jump: `ja rest.length` as third instruction
  have hlong : ¬ rest.length ≤ 255 := fun h => by simp [h] at hlen; omega
  simp only [if_neg hlong, List.cons_append, List.nil_append, List.length_cons, List.map_cons] at hlen ⊢
  match k, hk with
  | 0, _ | 1, _ | 2, _ => -- empty, or not ending in a return
    simp [kernelAccepts, lastIsRet, encode, opRetK, opLdAbsW, opJeqK]
  | k+3, hk => -- the jump is in, and the prefix ends long before its target
    have hl := List.length_take_le k (encode (.ld 0) :: rest.map encode)
    have := allInsnOk_far_ja [encode (.ld 4), encode (.jif .eq ar.id 1 0)] _ rest.length
      (by omega : (List.take k (encode (.ld 0) :: rest.map encode)).length ≤ rest.length)
    rw [List.cons_append, List.cons_append, List.nil_append] at this
    simp [kernelAccepts, List.take_succ_cons, this]

/-- **A wrapped length never installs a truncated filter**: for every accepted policy whose program has 65536
    instructions or more, every prefix the kernel could be shown (any `k ≤ 4096`, in particular
    `k = prog.length % 65536` when that is small) is refused by the kernel's checker. -/
theorem wrapped_length_prefix_rejected (A : ArchInfo) (e : Endian) (p : Policy) (prog : List Instr)
    (h : assemblePolicy (some A) (Layout.ofEndian e) p = .ok prog) (hlen : 65536 ≤ prog.length)
    (k : Nat) (hk : k ≤ 4096) : kernelAccepts ((prog.map encode).take k) = false := by
  obtain ⟨-, -, _, outs, -, -, rfl⟩ := assemblePolicy_eq_ok_iff.1 h
  exact policyProg_prefix_rejected _ _ k hlen hk

theorem long_prefix_rejected (raw : List RawInsn) (h : 4096 < raw.length) : kernelAccepts raw = false := by
  unfold kernelAccepts
  simp [decide_eq_false (Nat.not_le.2 h)]

end C08
