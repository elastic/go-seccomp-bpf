import Seccomp.Gen.CacheSkeleton
import Seccomp.Proofs.Lemmas.CacheSpecLemmas
/-!
# C17 — the profiler never trusts an incomplete cached disassembly

The model is the file-system step machine of `Model/Cache.lean`.  A *run* is `doObjdump` started in
a world `World.start fs env`; the environment `env` fixes everything the run does not control:
what `go tool objdump` does (`ok`, `missing`, `fails out`), after how many primitive steps the
process is killed (`crashAt`, `none` = it is not killed), which I/O calls fail (`fault`), and how the
buffered writer splits its output between file and memory (`early`).  Every theorem below
quantifies over `env`; there is no bound on the length of the listing.  `L : Str → Str` is the
disassembly as a function of the binary's hash (the hash identifies the binary, the disassembly is a
function of the binary).

Theorems are stated about the hand-written reference `CacheSpec.doObjdump`; `tie` proves that the
rendering of the source which `vextract` regenerates on every run (`Gen.doObjdump`) *is* that
function, and `second_run_source` restates the main result for it.

**Partial** (what is assumed rather than proved, see also `/verif/evidence/C17.json`): `rename(2)` replaces
the target atomically (`Cache.osRename`); a file is identified with its path; writes to different
files do not interfere; SHA-256 identifies the binary.  On the real binary the crash points are
sampled (process killed at the chunk boundaries of the disassembler's output), not enumerated.
-/

namespace C17
open Cache CacheSpec

structure RunOK (L : Str → Str) (dump hash : Str) (env : Env) : Prop where
  dump : env.dump = dump
  listing : env.listing = L hash
  hash : HashOK hash

def run (binary hash : Str) (fs : FS) (env : Env) : (Str × GoErr) × World :=
  doObjdump binary hash (World.start fs env)

/-- **The invariant.**  The final cache path never holds an incomplete file that looks valid: if
    it was honest before a run it is honest after it — whatever the disassembler did, wherever the
    run was killed, whichever I/O call failed.  (The path is only ever written by `rename` of a
    temporary file that was completely written, flushed and closed: `CacheSpec.store_stored`.) -/
theorem cache_hit_only_if_complete (L : Str → Str) (dump : Str) (hs : 47 ∈ dump) (fs : FS)
    (binary hash : Str) (env : Env) (h : RunOK L dump hash env) (hi : Honest L dump fs) :
    Honest L dump (run binary hash fs env).2.fs := by
  obtain ⟨rfl, hl, hh⟩ := h
  exact doObjdump_honest L binary hash (World.start fs env) rfl hs hl hh hi

theorem cold_cache_honest (L : Str → Str) (dump : Str) (fs : FS) (h : fs dump = none) : Honest L dump fs := by
  intro c hc; rw [h] at hc; cases hc

theorem normal_run_full_or_error (L : Str → Str) (dump : Str) (hs : 47 ∈ dump) (fs : FS) (hi : Honest L dump fs)
    (binary hash : Str) (env : Env) (h : RunOK L dump hash env) (hn : env.crashAt = none) :
    (run binary hash fs env).1.2 ≠ .nil ∨
    ((run binary hash fs env).1.1 = dump ∧ (run binary hash fs env).2.fs dump = some (complete L hash)) := by
  obtain ⟨rfl, hl, hh⟩ := h
  by_cases hok : (run binary hash fs env).1.2 = .nil
  · exact .inr (doObjdump_ok_complete L binary hash (World.start fs env) rfl (by simp [World.start, hn]) hn hs hl hh hi hok)
  · exact .inl hok

/-- **Second run: the full listing or an error.**  Start from any file system whose cache path is
    honest (for instance: no cache file).  Run₁ is arbitrary: any behaviour of the disassembler
    (works, missing, non-zero exit after printing anything), killed after any number of primitive
    steps or not at all, any I/O failures, any split of the buffered output, even another binary.
    Then a normal run₂ (not killed; its disassembler and its I/O may fail too) returns an error, or
    the cache path, and that file is **complete for the exact binary** of run₂: its hash line
    followed by the whole listing — never a strict prefix. -/
theorem second_run_full_or_error (L : Str → Str) (dump : Str) (hs : 47 ∈ dump)
    (fs₀ : FS) (h₀ : Honest L dump fs₀)
    (binary₁ hash₁ : Str) (env₁ : Env) (h₁ : RunOK L dump hash₁ env₁)
    (binary₂ hash₂ : Str) (env₂ : Env) (h₂ : RunOK L dump hash₂ env₂) (hn : env₂.crashAt = none) :
    (run binary₂ hash₂ (run binary₁ hash₁ fs₀ env₁).2.fs env₂).1.2 ≠ .nil ∨
    ((run binary₂ hash₂ (run binary₁ hash₁ fs₀ env₁).2.fs env₂).1.1 = dump ∧
     (run binary₂ hash₂ (run binary₁ hash₁ fs₀ env₁).2.fs env₂).2.fs dump = some (complete L hash₂)) :=
  normal_run_full_or_error L dump hs _ (cache_hit_only_if_complete L dump hs fs₀ binary₁ hash₁ env₁ h₁ h₀)
    binary₂ hash₂ env₂ h₂ hn

def after (fs : FS) : List (Str × Str × Env) → FS
  | [] => fs
  | (b, h, e) :: rest => after (run b h fs e).2.fs rest

/-- **Any history.**  After any number of interrupted, failed or successful runs, a normal run
    returns an error or a file that is complete for its binary. -/
theorem history_full_or_error (L : Str → Str) (dump : Str) (hs : 47 ∈ dump)
    (hist : List (Str × Str × Env)) (hh : ∀ x ∈ hist, RunOK L dump x.2.1 x.2.2)
    (fs₀ : FS) (h₀ : Honest L dump fs₀)
    (binary hash : Str) (env : Env) (h : RunOK L dump hash env) (hn : env.crashAt = none) :
    (run binary hash (after fs₀ hist) env).1.2 ≠ .nil ∨
    ((run binary hash (after fs₀ hist) env).1.1 = dump ∧
     (run binary hash (after fs₀ hist) env).2.fs dump = some (complete L hash)) := by
  have : Honest L dump (after fs₀ hist) := by
    induction hist generalizing fs₀ with
    | nil => exact h₀
    | cons x rest ih =>
      obtain ⟨b, h', e⟩ := x
      exact ih (fun y hy => hh y (List.mem_cons_of_mem _ hy)) _
        (cache_hit_only_if_complete L dump hs fs₀ b h' e (hh _ List.mem_cons_self) h₀)
  exact normal_run_full_or_error L dump hs _ this binary hash env h hn

/-- A cache hit is only ever a complete file: whenever a normal run reports success without having
    run the disassembler's output into place — in fact whenever it reports success at all — the file
    it names starts with the hash and continues with the whole listing. -/
theorem returned_file_never_truncated (L : Str → Str) (dump : Str) (hs : 47 ∈ dump) (fs : FS) (hi : Honest L dump fs)
    (binary hash : Str) (env : Env) (h : RunOK L dump hash env) (hn : env.crashAt = none)
    (hok : (run binary hash fs env).1.2 = .nil) (c : Str)
    (hc : (run binary hash fs env).2.fs (run binary hash fs env).1.1 = some c) :
    c = hash ++ bytes "\n" ++ L hash := by
  rcases normal_run_full_or_error L dump hs fs hi binary hash env h hn with h' | ⟨h1, h2⟩
  · exact absurd hok h'
  · rw [h1, h2] at hc; cases hc; rfl

/-- One stage of following a run in both functions at once: name the result of the next primitive, take it
    apart by the pattern, split on its error value `e`.  If `e ≠ nil` both sides return it (`simp`); the goal
    left has `e = nil`.  A goal without the primitive is one in which the run has ended: `rfl`. -/
macro "stage " t:term " as " p:Lean.Parser.Tactic.rcasesPatMed " on " e:ident : tactic =>
  `(tactic| all_goals (first
    | (generalize $t = r
       obtain $p := r
       dsimp only
       refine (dite ($e = GoErr.nil) (fun h => ?_) (fun h => by simp [h]))
       subst h)
    | rfl))

/-- **Translator tie**: the Lean rendering of `doObjdump` and `hashBinary` that `vextract`
    regenerates from cmd/seccomp-profiler/main.go is, for every input, world and behaviour `U` of
    untranslatable statements, equal to the hand-written reference (results and final world). -/
theorem tie (U : Cache.Unsupported) (binary hash : Str) (w : World) :
    Gen.doObjdump U binary hash w = CacheSpec.doObjdump binary hash w ∧
    Gen.hashBinary U binary w = CacheSpec.hashBinary binary w := by
  refine ⟨?_, ?_⟩
  /- Two paths.  The source has the cache test inline and `return`s from inside it, so its rendering carries
     the store path in both branches of `os.Open`: that is `doObjdump_inline`, and the rest is `rfl`.  Any other
     arrangement of the same calls (errors accumulated instead of returned, the function cut into helpers) is
     followed call by call in execution order, so that a rewrite of the source that leaves the run alone still
     proves; that path takes about ten times the elaboration work and is not taken while the first succeeds. -/
  · first
    | (rw [doObjdump_inline]; rfl)
    | (unfold Gen.doObjdump CacheSpec.doObjdump CacheSpec.lookup CacheSpec.store CacheSpec.cleanup
       stage (cachedDumpFile _ _) as ⟨⟨dumpFile, e⟩, w1⟩ on e
       simp only [ne_eq, not_true_eq_false, if_false]
       generalize osOpen dumpFile w1 = o
       obtain ⟨⟨f, e2⟩, w2⟩ := o
       dsimp only
       by_cases h2 : e2 = .nil
       case' neg =>
         simp only [h2, if_false, if_true, Bool.false_eq_true, not_false_eq_true, not_true_eq_false, ne_eq]
         try dsimp only
         try simp only [Bool.false_eq_true, if_false, if_true, not_true_eq_false, not_false_eq_true, ne_eq]
       case' pos =>
         subst h2
         generalize fileRead f (mkBuf 64) w2 = r
         obtain ⟨⟨n, e3⟩, buf, w3⟩ := r
         generalize fileClose f w3 = c
         obtain ⟨ec, w4⟩ := c
         dsimp only
         -- the three facts the cache test consists of, one by one (however the source combines them)
         by_cases ha : e3 = GoErr.nil <;> by_cases hb : n = buf.length <;> by_cases hc : hash = buf <;>
           (have hc' : (buf = hash) = (hash = buf) := propext ⟨Eq.symm, Eq.symm⟩
            simp only [ha, hb, hc, hc', and_true, true_and, and_false, false_and, not_true_eq_false,
              not_false_eq_true, or_false, false_or, or_true, true_or, if_true, if_false, decide_true, decide_false,
              decide_eq_true_eq, Bool.false_eq_true, ne_eq])
       stage (osCreateTemp _ _ _) as ⟨⟨tf, e⟩, w5⟩ on e
       stage (writeString _ _ _) as ⟨⟨wn, e⟩, w6⟩ on e
       stage (cmdRun _ _) as ⟨e, w7⟩ on e
       stage (flush _ _) as ⟨e, w8⟩ on e
       stage (fileClose _ _) as ⟨e, w9⟩ on e
       stage (osRename _ _ _) as ⟨e, w10⟩ on e
       all_goals simp)
  · first
    | rfl
    | (unfold Gen.hashBinary CacheSpec.hashBinary
       stage (osOpen _ _) as ⟨⟨f, e⟩, w1⟩ on e
       stage (ioCopy _ _ _) as ⟨⟨n, e2⟩, h, w2⟩ on e2
       all_goals simp)

/-- the translator rendered every statement of both functions (nothing was left to the oracle `U`) -/
theorem skeleton_complete : Gen.cacheNotes = [] := by decide

/-- the main result, about the regenerated rendering of the source -/
theorem second_run_source (U : Cache.Unsupported) (L : Str → Str) (dump : Str) (hs : 47 ∈ dump)
    (fs₀ : FS) (h₀ : Honest L dump fs₀)
    (binary₁ hash₁ : Str) (env₁ : Env) (h₁ : RunOK L dump hash₁ env₁)
    (binary₂ hash₂ : Str) (env₂ : Env) (h₂ : RunOK L dump hash₂ env₂) (hn : env₂.crashAt = none) :
    let fs₁ := (Gen.doObjdump U binary₁ hash₁ (World.start fs₀ env₁)).2.fs
    let r₂ := Gen.doObjdump U binary₂ hash₂ (World.start fs₁ env₂)
    r₂.1.2 ≠ .nil ∨ (r₂.1.1 = dump ∧ r₂.2.fs dump = some (complete L hash₂)) := by
  simp only [(tie U _ _ _).1]
  exact second_run_full_or_error L dump hs fs₀ h₀ binary₁ hash₁ env₁ h₁ binary₂ hash₂ env₂ h₂ hn

theorem hexDigit_hex (n : Nat) (h : n < 16) : isHex (hexDigit n) := by
  unfold isHex hexDigit; split <;> omega

theorem hexEncode_spec (l : Str) : (hexEncode l).length = 2 * l.length ∧ ∀ b ∈ hexEncode l, isHex b := by
  induction l with
  | nil => simp [hexEncode]
  | cons a t ih =>
    refine ⟨by simp [hexEncode, ih.1]; omega, fun b hb => ?_⟩
    simp only [hexEncode, List.mem_cons] at hb
    rcases hb with rfl | rfl | hb
    · exact hexDigit_hex _ (Nat.mod_lt _ (by decide))
    · exact hexDigit_hex _ (Nat.mod_lt _ (by decide))
    · exact ih.2 b hb

/-- Whatever happens while hashing, `doObjdump` is given 64 hex digits or `""` (the latter when
    reading the binary fails: `hashBinary` returns `"", nil`, the error is swallowed — the next
    theorem shows that this never produces a cache hit). -/
theorem hashBinary_hands_over_hash_or_empty (hsha : ∀ d, (sha256 d).length = 32) (binary : Str) (w : World) :
    HashOK (CacheSpec.hashBinary binary w).1.1 := by
  unfold CacheSpec.hashBinary
  dsimp only
  split
  · exact .inr rfl
  · split
    · exact .inr rfl
    · exact .inl ⟨by rw [(hexEncode_spec _).1, hashSum, hsha], (hexEncode_spec _).2⟩

theorem empty_hash_never_hits (dump : Str) (w : World) : (lookup dump [] w).1 = false := by
  cases h : (lookup dump [] w).1 with
  | false => rfl
  | true =>
    obtain ⟨_, _, _, h3⟩ := lookup_hit dump [] w h
    cases h3

/-! ### the pinned protocol does not have the property -/

def pinnedRun (binary hash : Str) (fs : FS) (env : Env) : (Str × GoErr) × World :=
  pinnedDoObjdump binary hash (World.start fs env)

def demoHash : Str := List.replicate 64 48
def demoL : Str → Str := fun _ => [77, 79, 86, 10, 83, 89, 83, 10]
def demoEnv : Env := { binary := bytes "/bin/x", dump := bytes "/h/.seccomp-profiler/x-0123456789", listing := demoL demoHash }

theorem demo_ok : 47 ∈ demoEnv.dump ∧ IsHash demoHash ∧ RunOK demoL demoEnv.dump demoHash demoEnv := by
  have h : IsHash demoHash := by decide +kernel
  refine ⟨?_, h, rfl, rfl, .inl h⟩
  -- here and in every evaluation below: the kernel is given the characters of the paths, not the literals
  unfold demoEnv
  repeat rw [bytes_ofList]
  decide +kernel

/-- the shape of both refutations -/
theorem names_strict_prefix {r : (Str × GoErr) × World} {dump c full : Str}
    (h : r.1 = (dump, .nil) ∧ r.2.fs dump = some c) (hne : c ≠ full) (hp : c <+: full) :
    r.1.2 = .nil ∧ ∃ c, r.2.fs r.1.1 = some c ∧ c ≠ full ∧ c <+: full := by
  rw [h.1]; exact ⟨rfl, c, h.2, hne, hp⟩

/-- **Refutation on the pinned protocol** (header written first, listing streamed into the final
    path).  Cold cache; run₁ is killed while the disassembler is printing, at a moment when the
    writer had pushed the 65-byte header line to the file; run₂ is a perfectly normal run with a
    working disassembler.  Run₂ reports success and names a file that is a *strict prefix* of the
    complete one (the header without the listing). -/
theorem pinned_protocol_unsound :
    ∃ (env₁ env₂ : Env), RunOK demoL demoEnv.dump demoHash env₁ ∧ RunOK demoL demoEnv.dump demoHash env₂ ∧
      env₂.crashAt = none ∧ env₂.objdump = .ok ∧ (∀ i, env₂.fault i = false) ∧
      let fs₁ := (pinnedRun demoEnv.binary demoHash (fun _ => none) env₁).2.fs
      let r₂ := pinnedRun demoEnv.binary demoHash fs₁ env₂
      r₂.1.2 = .nil ∧ ∃ c, r₂.2.fs r₂.1.1 = some c ∧ c ≠ complete demoL demoHash ∧ c <+: complete demoL demoHash := by
  -- `env₁`: the step with index 4 (after `cachedDumpFile`, `open`, `create`, `writeString`) is `cmdRun`; during it
  -- the writer pushes 65 bytes to the file, the hash and its `\n` (`early 4 = 65`), and the process is killed when
  -- it is over (`crashAt := some 5`).  `with_reducible rfl`: both sides are the field `demoEnv.dump`, and plain
  -- `rfl` starts evaluating its `bytes "…"` literal.
  refine ⟨{ demoEnv with crashAt := some 5, early := fun i => if i = 4 then 65 else 0 }, demoEnv,
    ⟨by with_reducible rfl, rfl, demo_ok.2.2.hash⟩, demo_ok.2.2, rfl, rfl, fun _ => rfl, ?_⟩
  -- the two runs are evaluated once, for what run₂ returns and what the file it names holds
  refine names_strict_prefix (dump := demoEnv.dump) (c := demoHash ++ [10]) ?_ (by decide +kernel)
    ⟨demoL demoHash, by decide +kernel⟩
  unfold demoEnv
  repeat rw [bytes_ofList]
  decide +kernel

/-- the same with a disassembler that exits non-zero after printing part of the listing, and no crash
    at all: the pinned code flushed the partial output on its error path -/
theorem pinned_protocol_unsound_failing_tool :
    ∃ (env₁ : Env), RunOK demoL demoEnv.dump demoHash env₁ ∧ env₁.crashAt = none ∧
      let fs₁ := (pinnedRun demoEnv.binary demoHash (fun _ => none) env₁).2.fs
      let r₂ := pinnedRun demoEnv.binary demoHash fs₁ demoEnv
      r₂.1.2 = .nil ∧ ∃ c, r₂.2.fs r₂.1.1 = some c ∧ c ≠ complete demoL demoHash ∧ c <+: complete demoL demoHash := by
  -- `with_reducible rfl` as in `pinned_protocol_unsound`
  refine ⟨{ demoEnv with objdump := .fails [77, 79, 86, 10] }, ⟨by with_reducible rfl, rfl, demo_ok.2.2.hash⟩, rfl, ?_⟩
  refine names_strict_prefix (dump := demoEnv.dump) (c := demoHash ++ [10, 77, 79, 86, 10]) ?_ (by decide +kernel)
    ⟨[83, 89, 83, 10], by decide +kernel⟩
  unfold demoEnv
  repeat rw [bytes_ofList]
  decide +kernel

/-! ### non-vacuity: the same two histories on the repaired protocol -/

/-- killed at the same moment: the repaired run₂ does not find a cache entry, disassembles again and
    returns the complete file -/
theorem repaired_after_crash_example :
    let env₁ : Env := { demoEnv with crashAt := some 5, early := fun i => if i = 4 then 65 else 0 }
    let fs₁ := (run demoEnv.binary demoHash (fun _ => none) env₁).2.fs
    let r₂ := run demoEnv.binary demoHash fs₁ { demoEnv with tmpSuffix := [49] }
    fs₁ demoEnv.dump = none ∧ r₂.1 = (demoEnv.dump, .nil) ∧ r₂.2.fs demoEnv.dump = some (complete demoL demoHash) ∧
    r₂.2.log = [bytes "objdump written to" ++ [32] ++ demoEnv.dump] := by
  -- `env₁` is that of `pinned_protocol_unsound`.  Run₁, killed, leaves its temporary file behind, and `CreateTemp`
  -- (`O_EXCL`) fails on a name that exists: run₂ has to draw another random suffix, hence `tmpSuffix := [49]`.
  unfold demoEnv
  repeat rw [bytes_ofList]
  decide +kernel

theorem repaired_hit_example :
    let fs₁ := (run demoEnv.binary demoHash (fun _ => none) demoEnv).2.fs
    let r₂ := run demoEnv.binary demoHash fs₁ demoEnv
    r₂.1 = (demoEnv.dump, .nil) ∧ r₂.2.fs demoEnv.dump = some (complete demoL demoHash) ∧
    r₂.2.log = [bytes "Using cached objdump."] := by
  unfold demoEnv
  repeat rw [bytes_ofList]
  decide +kernel

theorem repaired_failing_tool_example :
    let r₁ := run demoEnv.binary demoHash (fun _ => none) { demoEnv with objdump := .fails [77, 79, 86, 10] }
    r₁.1.2 ≠ .nil ∧ r₁.2.fs demoEnv.dump = none ∧
    r₁.2.fs (demoEnv.dump ++ bytes ".tmp") = none := by
  unfold demoEnv
  repeat rw [bytes_ofList]
  decide +kernel

end C17
