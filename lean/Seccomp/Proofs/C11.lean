import Seccomp.Proofs.C09
/-!
# C11 — no_new_privs is set iff requested, before install, on the installing thread

Schedules are the oracle `w.sched` of the world (where the goroutine lands at successive schedule
points; every kernel entry starts with one).  `runtime.LockOSThread` makes schedule points inert.
The theorems are about the regenerated `Gen.loadFilter`; the fact they rest on — the lock is taken
before `prctl` and released only by the deferred unlock after `seccomp` returned — is read off the
source by the translator on every run.
-/

namespace C11

/-- **Before, and on the same thread, under every schedule.**  If NoNewPrivs is requested (and the
    policy assembles), the kernel sees exactly two calls, in this order and both on the thread the
    goroutine was on when `LoadFilter` was entered: `prctl(PR_SET_NO_NEW_PRIVS, 1, 0, 0, 0)`, then
    `seccomp(SET_MODE_FILTER, flags, prog)` — whatever the schedule oracle says. -/
theorem nnp_before_install_same_thread (U : Unsupported) (filter : Filter) (p : Prog)
    (hp : filter.policy = .prog p) (hn : filter.noNewPrivs = true) (w : World) (ha : w.nnpAvailable = true) :
    (Gen.loadFilter U filter w).2.log =
      .seccomp w.cur 1 filter.flag (mkFprog (.prog p)) :: .prctl w.cur 38 1 0 0 0 :: w.log := by
  obtain ⟨c, w', o, -, -, hw⟩ := gen_load_outcome U filter w
  rw [hw, ← hp]
  have hl : (callWorld filter w).log = _ := congrArg World.log (callWorld_eq_of_nnp hn ha)
  cases o with
  | noProgram h => exact absurd hp (h p)
  | nnpRefused _ _ hf => exact absurd (ha.symm.trans hf.2) nofun
  | declined | installed => exact hl

/-- **Never installed without the bit.**  If NoNewPrivs is requested and the kernel refuses to set it
    (`prctl` answers EINVAL), `LoadFilter` returns that error and makes no seccomp call.  Together with the
    theorem above: whenever NoNewPrivs is requested, a seccomp call is only ever made after a successful
    `prctl` on the same thread. -/
theorem no_install_without_bit (U : Unsupported) (filter : Filter) (p : Prog)
    (hp : filter.policy = .prog p) (hn : filter.noNewPrivs = true) (w : World) (ha : w.nnpAvailable = false) :
    (Gen.loadFilter U filter w).1 ≠ GoErr.nil ∧
    (Gen.loadFilter U filter w).2.log = .prctl w.cur 38 1 0 0 0 :: w.log ∧
    (Gen.loadFilter U filter w).2.thr = w.thr := by
  obtain ⟨h1, h2, h3, _⟩ := C09.nnp_refusal_is_error U filter p hp w hn ha
  refine ⟨fun h => ?_, h3, h2⟩
  rw [h] at h1; simp [GoErr.cls] at h1

theorem bit_set_at_install (filter : Filter) (w : World) (hn : filter.noNewPrivs = true) (ha : w.nnpAvailable = true) :
    ((preInstall filter w).thr (C09.callThread filter w)).nnp = true := by
  have h := callWorld_bit hn ha
  rwa [callWorld_thr_pre, callWorld_cur] at h

/-- the option and argument words are those of the UAPI -/
theorem prctl_words : PR_SET_NO_NEW_PRIVS = 38 ∧ SECCOMP_SET_MODE_FILTER = 1 := ⟨rfl, rfl⟩

/-- **An unprivileged process can always load a valid filter when it asks for no_new_privs**, under
    every schedule: a kernel that has the seccomp syscall, a valid program (accepted by the verifier,
    1..4096 instructions), known flag bits (thread-sync and a listener are not asked for together), and
    — if thread-sync is requested — no other thread with a chain that is not an ancestor of the
    caller's. -/
theorem unprivileged_can_load (U : Unsupported) (filter : Filter) (p : Prog)
    (hp : filter.policy = .prog p) (hn : filter.noNewPrivs = true) (w : World)
    (havail : w.seccompAvailable = true) (ha : w.nnpAvailable = true)
    (hok : p.ok = true ∧ p.len % 65536 ≠ 0 ∧ p.len % 65536 ≤ BPF_MAXINSNS)
    (hflags : filter.flag &&& knownFlags = filter.flag)
    (hcombo : ¬ (filter.flag &&& FLAG_TSYNC ≠ 0 ∧ filter.flag &&& FLAG_NEW_LISTENER ≠ 0))
    (hsync : filter.flag &&& FLAG_TSYNC ≠ 0 → ∀ t ∈ w.live, t ≠ w.cur →
      (w.thr t).filters.isSuffixOf (w.thr w.cur).filters = true) :
    (Gen.loadFilter U filter w).1 = GoErr.nil := by
  refine gen_loadFilter_ok hp (fun hf => nomatch ha.symm.trans hf.2)
    ⟨by rw [callWorld_avail]; exact havail, hflags, hcombo, hok.2, .inl (callWorld_bit hn ha), hok.1,
      fun hts t ht htc => ?_⟩
  rw [callWorld_filters, callWorld_filters]
  rw [callWorld_live] at ht
  rw [callWorld_cur_of_nnp hn] at htc ⊢
  exact hsync hts t ht htc

/-- … in particular with a listener: `SECCOMP_FILTER_FLAG_NEW_LISTENER`, alone or with LOG, makes the
    kernel return a positive descriptor, which is not a refusal -/
theorem unprivileged_can_load_with_listener (U : Unsupported) (filter : Filter) (p : Prog)
    (hp : filter.policy = .prog p) (hn : filter.noNewPrivs = true) (w : World)
    (havail : w.seccompAvailable = true) (ha : w.nnpAvailable = true)
    (hok : p.ok = true ∧ p.len % 65536 ≠ 0 ∧ p.len % 65536 ≤ BPF_MAXINSNS)
    (hfl : filter.flag = FLAG_NEW_LISTENER ∨ filter.flag = FLAG_NEW_LISTENER ||| FLAG_LOG) :
    (Gen.loadFilter U filter w).1 = GoErr.nil := by
  apply unprivileged_can_load U filter p hp hn w havail ha hok
  · rcases hfl with h | h <;> rw [h] <;> decide
  · rcases hfl with h | h <;> rw [h] <;> decide
  · rcases hfl with h | h <;> rw [h] <;> intro hts <;> exact absurd rfl hts

/-- **Not requested ⇒ the loader issues no `prctl`**: the only kernel call it can make is the seccomp
    call (none at all if the policy does not assemble). -/
theorem no_prctl_if_not_requested (U : Unsupported) (filter : Filter) (hn : filter.noNewPrivs = false) (w : World) :
    (Gen.loadFilter U filter w).2.log = w.log ∨
    ∃ tid prog, (Gen.loadFilter U filter w).2.log = .seccomp tid 1 filter.flag prog :: w.log := by
  obtain ⟨c, w', o, -, -, hw⟩ := gen_load_outcome U filter w
  rw [hw]
  have hl := callWorld_log filter w
  rw [preInstall_off hn] at hl
  cases o with
  | noProgram => exact .inl rfl
  | nnpRefused _ _ hf => exact absurd (hn.symm.trans hf.1) nofun
  | declined | installed => exact .inr ⟨_, _, hl⟩

/-- **Not requested ⇒ the bit is left as it was**: a thread has no_new_privs after the call only if it
    had it before, or (kernel behaviour of a successful thread-sync) the installing thread had it. -/
theorem nnp_untouched_if_not_requested (U : Unsupported) (filter : Filter) (hn : filter.noNewPrivs = false)
    (w : World) (t : Tid) (h : ((Gen.loadFilter U filter w).2.thr t).nnp = true) :
    (w.thr t).nnp = true ∨ (w.thr (C09.callThread filter w)).nnp = true := by
  obtain ⟨c, w', o, -, -, hw⟩ := gen_load_outcome U filter w
  rw [hw] at h
  have hthr : (callWorld filter w).thr = w.thr := by rw [callWorld_thr_pre, preInstall_off hn]
  cases o with
  | noProgram => exact .inl h
  | nnpRefused _ _ hf => exact absurd (hn.symm.trans hf.1) nofun
  | declined => exact .inl (hthr ▸ h)
  | installed =>
    rw [← hthr]
    rcases attach_thr filter.flag _ (callWorld filter w) t with e | e
    · exact .inl (e ▸ h)
    · rw [e, callWorld_cur] at h; exact (Bool.or_eq_true _ _).mp h

/-- **Unprivileged and not requested ⇒ an error, nothing installed** (when no thread has the bit). -/
theorem unprivileged_without_nnp_fails (U : Unsupported) (filter : Filter) (hn : filter.noNewPrivs = false)
    (w : World) (hc : w.cur ∈ w.live) (hpriv : w.privileged = false)
    (hbits : ∀ t ∈ w.live, (w.thr t).nnp = false) :
    (Gen.loadFilter U filter w).1 ≠ GoErr.nil ∧
      ∀ t, ((Gen.loadFilter U filter w).2.thr t).filters = (w.thr t).filters := by
  have herr : (Gen.loadFilter U filter w).1 ≠ GoErr.nil := by
    intro hnil
    obtain ⟨p, hp, -, -, -⟩ := gen_loadFilter_nil (Prod.ext hnil rfl)
    refine C09.kernel_refusal_is_error U filter p hp w (.inr (.inr (.inr (.inr (.inl ⟨?_, hpriv⟩))))) hnil
    rw [preInstall_off hn]
    exact hbits _ (C09.callThread_mem_live filter hc)
  exact ⟨herr, C09.failed_load_attaches_nothing U filter w herr⟩

/-! ### the schedule that broke the pinned tree (DESIGN §7 F6), and why the lock matters

`unlockedLoad` is `LoadFilter` without `runtime.LockOSThread` (hand-written: it is *not* the code, it
shows that the model exhibits the failure the lock prevents). -/

def unlockedLoad (U : Unsupported) (filter : Filter) (p : Prog) (w : World) : GoErr × World :=
  let (err, w) := Gen.setNoNewPrivs U w
  if err ≠ GoErr.nil then (err, w) else Gen.seccomp U 1 filter.flag (some p) w

/-- the goroutine is moved from thread 1 to thread 2 between the two calls (the first schedule point keeps
    it on 1) -/
def migrating : World :=
  { thr := fun _ => {}, live := [1, 2], cur := 1, privileged := false, sched := [1, 2] }

theorem migration_breaks_unlocked_load :
    (unlockedLoad C09.noU { noNewPrivs := true, flag := 0, policy := .prog C09.goodProg } C09.goodProg migrating).1
      = GoErr.errno EACCES := by decide +kernel

theorem migration_harmless_with_lock :
    (Gen.loadFilter C09.noU { noNewPrivs := true, flag := 0, policy := .prog C09.goodProg } migrating).1
      = GoErr.nil := by decide +kernel

/-- privileged: the seccomp call itself would succeed -/
def noNnpKernel : World :=
  { thr := fun _ => {}, live := [1, 2], cur := 1, privileged := true, nnpAvailable := false }

theorem nnp_fault_example :
    let r := Gen.loadFilter C09.noU { noNewPrivs := true, flag := 0, policy := .prog C09.goodProg } noNnpKernel
    r.1.cls = .errno EINVAL ∧ r.2.log = [.prctl 1 38 1 0 0 0] ∧ (r.2.thr 1).filters = [] ∧ (r.2.thr 1).nnp = false := by
  decide +kernel

end C11
