import Seccomp.Proofs.Lemmas.CompilePolicy
/-!
# C01 — allow/deny lists decide by first matching group, else the default action

`assemblePolicy` is the model of `Policy.Assemble` (tied to the Go code by the `policy` stream of
the correspondence check: exact equality of instruction lists and errors).  `A` ranges over *all*
architecture descriptions (any name table, any audit id), so the theorems hold for x86_64, i386,
arm, aarch64 and any table added later; `e` over both byte orders; `ev` over all events (every
32-bit number, all argument values).  No bound on groups, names or program length.
-/

namespace C01

/-- **The compiled filter computes the specified decision** on every event. -/
theorem compile_correct (A : ArchInfo) (e : Endian) (p : Policy) (prog : List Instr)
    (h : assemblePolicy (some A) (Layout.ofEndian e) p = .ok prog) (ev : Event) (a0 : Word) :
    run (words e ev) prog a0 = .ret (Spec.decision A p ev) := by
  obtain ⟨-, -, A', outs, hA, ho, rfl⟩ := assemblePolicy_eq_ok_iff.1 h
  cases hA
  rw [run_policyProg _ (assembleGroup_spec A _) (assembleGroups_eq_mapM A _ _ ▸ ho) (sees_words e ev)]
  have hx : ((A.id == auditArchX86_64) = true ∧ x32Bit.ule ev.nr = true) ↔
      (A.id = auditArchX86_64 ∧ ev.nr.toNat ≥ 0x40000000) := by simp [x32Bit, BitVec.ule]
  simp only [Spec.decision_eq, apply_ite Result.ret, ArchInfo.archI, hx, show words e ev 4 = ev.arch from rfl]
  rfl

/-- an event the property speaks about: the policy's architecture, and on x86_64 no x32 bit -/
def Native (A : ArchInfo) (ev : Event) : Prop :=
  ev.arch = A.id ∧ ¬ (A.id = auditArchX86_64 ∧ ev.nr.toNat ≥ 0x40000000)

/-- **First matching group, in policy order, decides; otherwise the default.** -/
theorem first_group_decides (A : ArchInfo) (e : Endian) (p : Policy) (prog : List Instr)
    (h : assemblePolicy (some A) (Layout.ofEndian e) p = .ok prog) (ev : Event) (hn : Native A ev) (a0 : Word) :
    run (words e ev) prog a0 =
      match p.groups.find? (fun g => Spec.groupMatches A g ev.nr ev.args) with
      | some g => .ret (enc g.action)
      | none => .ret (enc p.default) := by
  rw [compile_correct A e p prog h ev a0, Spec.decision_eq, if_neg (fun h => h hn.1), if_neg hn.2]
  cases p.groups.find? _ <;> rfl

theorem names_only_matches (A : ArchInfo) (g : Group) (hg : g.withConds = []) (nr : Word) (args : Nat → BitVec 64) :
    Spec.groupMatches A g nr args = g.names.any (fun n => A.number n == some nr) := by
  simp only [Spec.groupMatches, hg, List.any_nil, Bool.or_false]
  exact List.any_congr rfl fun n => Spec.nameIs_eq A nr n

theorem kth_group_decides (A : ArchInfo) (e : Endian) (p : Policy) (prog : List Instr)
    (h : assemblePolicy (some A) (Layout.ofEndian e) p = .ok prog) (ev : Event) (hn : Native A ev) (a0 : Word)
    (pre post : List Group) (g : Group) (hp : p.groups = pre ++ g :: post)
    (hpre : ∀ g' ∈ pre, Spec.groupMatches A g' ev.nr ev.args = false)
    (hg : Spec.groupMatches A g ev.nr ev.args = true) :
    run (words e ev) prog a0 = .ret (enc g.action) := by
  rw [first_group_decides A e p prog h ev hn a0, hp, List.find?_append,
    List.find?_eq_none.2 (by simpa using hpre)]
  simp [hg]

theorem default_if_unlisted (A : ArchInfo) (e : Endian) (p : Policy) (prog : List Instr)
    (h : assemblePolicy (some A) (Layout.ofEndian e) p = .ok prog) (ev : Event) (hn : Native A ev) (a0 : Word)
    (hno : ∀ g ∈ p.groups, Spec.groupMatches A g ev.nr ev.args = false) :
    run (words e ev) prog a0 = .ret (enc p.default) := by
  rw [first_group_decides A e p prog h ev hn a0, List.find?_eq_none.2 (by simpa using hno)]

/-- **Encoding of actions**: `errno` carries EPERM, every other action is its exact constant. -/
theorem enc_exact : enc actErrno = 0x00050001#32 ∧ ∀ a, a ≠ actErrno → enc a = a := by
  refine ⟨by decide, fun a ha => by simp [enc, ha]⟩

/-! ### non-vacuity: a two-group policy whose *second* group decides -/

def tinyArch : ArchInfo :=
  { name := "tiny", id := 0x40000003#32, mask := 0,
    lookup := fun s => if s = "read" then some 0 else if s = "write" then some 1
                        else if s = "open" then some 2 else if s = "close" then some 3 else none }

def twoGroups : Policy :=
  { default := actKillProcess,
    groups := [ { names := ["read", "write"], withConds := [], action := actAllow },
                { names := ["open", "close"], withConds := [], action := actErrno } ] }

def openEvent : Event := { nr := 2#32, arch := 0x40000003#32, ip := 0#64, args := fun _ => 0#64 }

theorem twoGroups_accepted : (assemblePolicy (some tinyArch) (Layout.ofEndian .little) twoGroups).toOption.isSome = true := by
  decide +kernel

theorem openEvent_native : Native tinyArch openEvent := by
  refine ⟨rfl, ?_⟩
  rintro ⟨h, _⟩
  exact absurd h (by decide)

theorem second_group_decides_example : Spec.decision tinyArch twoGroups openEvent = 0x00050001#32 := by
  decide +kernel

end C01
