import Seccomp.Proofs.Lemmas.Disasm
/-!
# C16 — syscall extraction is total, function-scoped and never silently truncated

Statement (properties.jsonl): *For any disassembly text, syscall extraction terminates without
panicking and returns an error, not a partial result, if the text cannot be read to the end.  A
syscall number is attributed only from instructions of the same function as the syscall site,
every reported syscall exists in the architecture's table under the reported name, and appending
further functions to a disassembly never removes syscalls found before.*

The theorems are about `Disasm.parse p tbl content fail` (`Model/Disasm.lean`): the model of
`disasm.ExtractSyscalls` on a file with the bytes `content`, where `fail = some k` means that the
reader reports an I/O error after `k` lines.  They hold for every table `tbl`, every byte string
and every failure point; `p` ranges over the parsers whose instruction patterns contain a visible
ASCII character (`Parser.Solid`; both parsers of the package are).  Termination is by construction
(the model functions are structurally recursive).  The model is tied to the Go code by the `disasm`
stream.
-/

namespace C16
open Disasm

/-- **Extraction never panics.**  For every text, table and failure point the outcome of `parse`
    is a list of syscalls or an error.  `panic` is what the model's slicing and indexing primitives
    (`sliceFrom`, `index`) produce where the Go run time would panic, so this is a statement about
    the guards of `line[5:]`, `fields[0]`, `fields[3:]` and `instructions[len-2]`. -/
theorem parse_total (p : Parser) (hp : p.Solid) (tbl : Nat → Option String) (content : Bytes)
    (fail : Option Nat) : parse p tbl content fail ≠ .panic := by
  unfold parse
  extract_lets raw
  split
  · exact absurd ‹_› (run_ne_none hp _ _)
  · split <;> simp

/-- `parse_total` for the two parsers of the package -/
theorem parse_total_x86_64 (tbl : Nat → Option String) (content : Bytes) (fail : Option Nat) :
    parse x86_64Parser tbl content fail ≠ .panic := parse_total _ x86_64Parser_solid tbl content fail

theorem parse_total_i386 (tbl : Nat → Option String) (content : Bytes) (fail : Option Nat) :
    parse i386Parser tbl content fail ≠ .panic := parse_total _ i386Parser_solid tbl content fail

def tbl0 : Nat → Option String := fun n =>
  if n = 59 then some "execve" else if n = 1 then some "write" else if n = 0 then some "read" else none

/-- Non-vacuity: `panic` is a possible outcome of the primitives.  The two slices of the pinned tree (F10)
    fail on a bare marker line and on a one-field `SYSCALL` line. -/
example : sliceFrom 5 (ofStr "TEXT") = none ∧ sliceFrom 3 (fields (ofStr "SYSCALL")) = none ∧
    index (fields (ofStr " \t")) 0 = none := by
  repeat rw [ofStr_ofList]
  decide +kernel

/-- The guarded parser gets through exactly those lines: the bare marker, the one-field `SYSCALL` line
    (reported: it follows `XORL AX, AX`), a `SYSCALL` line without number (warning). -/
example : parse x86_64Parser tbl0 (ofStr "TEXT\nXORL AX, AX\nSYSCALL\nSYSCALL\n") none =
    .ok [{ num := 0, name := "read", caller := [], function := [], location := ofStr "SYSCALL",
           assembly := ofStr "XORL AX, AX" }] := by
  repeat rw [ofStr_ofList]
  simp only [parseChars.2]
  decide +kernel

/-- the text cannot be read to the end: the reader fails after some number of lines, or a line
    (bytes between two newlines, or after the last one) has 65536 bytes or more, which the
    scanner refuses (`bufio.ErrTooLong`) -/
def Unreadable (content : Bytes) (fail : Option Nat) : Prop :=
  fail.isSome = true ∨ ∃ l ∈ rawLines content, l.length ≥ maxToken

/-- **A read failure at any point gives an error, never a partial `ok`** — whatever was found in
    the lines before the failure (or before the over-long line) is not returned. -/
theorem parse_error_on_read_failure (p : Parser) (hp : p.Solid) (tbl : Nat → Option String)
    (content : Bytes) (fail : Option Nat) (h : Unreadable content fail) :
    parse p tbl content fail = .error := by
  cases hpar : parse p tbl content fail with
  | panic => exact absurd hpar (parse_total p hp tbl content fail)
  | error => rfl
  | ok r =>
    obtain ⟨rfl, he, _⟩ := parse_ok_iff.mp hpar
    rcases h with h | h
    · cases h
    · rw [(scan_tooLong_iff _).mpr h] at he
      cases he

/-- Conversely an error is reported only for an unreadable text (no spurious errors). -/
theorem parse_error_only_on_read_failure (p : Parser) (tbl : Nat → Option String) (content : Bytes)
    (fail : Option Nat) (h : parse p tbl content fail = .error) : Unreadable content fail := by
  cases fail with
  | some k => exact Or.inl rfl
  | none =>
    rw [parse_none] at h
    split at h
    · cases h
    · split at h
      · exact Or.inr ((scan_tooLong_iff _).mp ‹_›)
      · cases h

/-- The same at the level of bytes: a run of at least 65536 bytes without a newline anywhere in
    the file makes extraction fail, whatever precedes and follows it. -/
theorem parse_error_on_long_run (p : Parser) (hp : p.Solid) (tbl : Nat → Option String)
    (a l b : Bytes) (hl : 10 ∉ l) (hlen : l.length ≥ 65536) :
    parse p tbl (a ++ l ++ b) none = .error := by
  obtain ⟨r, hr, hle⟩ := rawLines_long_run a l b hl (List.ne_nil_of_length_pos (Nat.lt_of_lt_of_le (by decide) hlen))
  exact parse_error_on_read_failure p hp _ _ _ (Or.inr ⟨r, hr, Nat.le_trans hlen hle⟩)

def site0 : Bytes :=
  ofStr "TEXT main.f(SB) /f.go\n  f.go:7\t0x1\t\t48c7\t\tMOVQ $0x3b, 0(SP)\t\n  f.go:8\t0x2\t\te8\t\tCALL syscall.Syscall(SB)\t\n"

def finding0 : Syscall :=
  { num := 59, name := "execve", caller := ofStr "main.f(SB) /f.go", function := ofStr "CALL syscall.Syscall(SB)",
    location := ofStr "f.go:8", assembly := ofStr "MOVQ $0x3b, 0(SP)" }

theorem site0_finding : parse x86_64Parser tbl0 site0 none = .ok [finding0] := by
  rw [site0, finding0]
  repeat rw [ofStr_ofList]
  simp only [parseChars.2]
  decide +kernel

/-- Non-vacuity: the listing has a finding when it is readable; with a reader that fails after 0,
    1, 3 or 1000 lines the result is an error (F10: the pinned tree returned `nil, nil` for the
    over-long line) -/
example : parse x86_64Parser tbl0 site0 none = .ok [finding0] ∧
    parse x86_64Parser tbl0 site0 (some 0) = .error ∧ parse x86_64Parser tbl0 site0 (some 1) = .error ∧
    parse x86_64Parser tbl0 site0 (some 3) = .error ∧ parse x86_64Parser tbl0 site0 (some 1000) = .error :=
  have err k : parse x86_64Parser tbl0 site0 (some k) = .error :=
    parse_error_on_read_failure _ x86_64Parser_solid _ _ _ (Or.inl rfl)
  ⟨site0_finding, err 0, err 1, err 3, err 1000⟩

/-- Non-vacuity: the listing with a finding, followed by a 70000-byte line, is an error -/
example : parse x86_64Parser tbl0 (site0 ++ List.replicate 70000 120 ++ [10]) none = .error :=
  parse_error_on_long_run _ x86_64Parser_solid _ site0 (List.replicate 70000 120) [10]
    (fun h => absurd (List.eq_of_mem_replicate h) (by decide)) (by rw [List.length_replicate]; omega)

/-- **Every reported `(num, name)` is an entry of the table**: the number is non-negative and
    `SyscallNumbers[num] = name`. -/
theorem reported_in_table (p : Parser) (tbl : Nat → Option String) (content : Bytes) (fail : Option Nat)
    (r : List Syscall) (h : parse p tbl content fail = .ok r) :
    ∀ s ∈ r, ∃ k : Nat, s.num = (k : Int) ∧ tbl k = some s.name := by
  obtain ⟨_, _, st, hst, rfl⟩ := parse_ok_iff.mp h
  exact fun s hs => lookupNum_some ((run_inv hst).found s hs).2

/-- Non-vacuity: of three well-formed sites (numbers 1, 2, -1) only the one whose number is in
    the table is reported, under the table's name -/
example : parse x86_64Parser tbl0
    (ofStr "TEXT f\na 1 b8 MOVL $2, AX\na 2 0f05 SYSCALL\nb 1 b8 MOVL $1, AX\nb 2 0f05 SYSCALL\nc 1 b8 MOVL $-1, AX\nc 2 0f05 SYSCALL\n") none =
    .ok [{ num := 1, name := "write", caller := ofStr "f", function := ofStr "SYSCALL", location := ofStr "b",
           assembly := ofStr "MOVL $1, AX" }] := by
  repeat rw [ofStr_ofList]
  simp only [parseChars.2]
  decide +kernel

/-- **Invariant of the instruction window.**  After any sequence of lines `pre` read so far, the
    window in which `findSyscallNum` will search is a suffix of these lines and contains no function
    marker line: every line of the window comes after the last `TEXT` line read so far.
    (`findSyscallNum` and `lastInstruction` see nothing but the window.) -/
theorem window_in_function (p : Parser) (tbl : Nat → Option String) (pre : List Bytes) (st : St)
    (h : run p tbl St.init pre = some st) :
    ∃ before, pre = before ++ st.window.reverse ∧ ∀ l ∈ st.window, isText l = false := by
  obtain ⟨pre', body, hpb, hbody, _, t, ht⟩ := (run_inv h).split
  exact ⟨pre' ++ t, by rw [hpb, ← ht]; simp, fun l hl => hbody l (by rw [← ht]; simp [hl])⟩

/-- **Every finding is function-scoped**: number and assembly text were read off lines of the function
    that holds the site, and the reported caller is the name on that function's `TEXT` line.
    `Disasm.Scoped` says it in terms of the lines of the listing. -/
theorem number_from_same_function (p : Parser) (tbl : Nat → Option String) (content : Bytes)
    (fail : Option Nat) (r : List Syscall) (h : parse p tbl content fail = .ok r) :
    ∀ s ∈ r, Scoped (scan (rawLines content)).1 s := by
  obtain ⟨_, _, st, hst, rfl⟩ := parse_ok_iff.mp h
  exact fun s hs => ((run_inv hst).found s hs).1

/-- Non-vacuity: a number loaded in `f` is not used for the call in `g` (no finding, the site
    only gives a warning); without the marker line between them it is. -/
example :
    parse x86_64Parser tbl0 (ofStr "TEXT f\na 1 48 MOVQ $59, 0(SP)\nTEXT g\nb 1 e8 CALL unix.Syscall(SB)\n") none = .ok [] ∧
    parse x86_64Parser tbl0 (ofStr "TEXT f\na 1 48 MOVQ $59, 0(SP)\nb 1 e8 CALL unix.Syscall(SB)\n") none =
      .ok [{ num := 59, name := "execve", caller := ofStr "f", function := ofStr "CALL unix.Syscall(SB)",
             location := ofStr "b", assembly := ofStr "MOVQ $59, 0(SP)" }] := by
  repeat rw [ofStr_ofList]
  simp only [parseChars.2]
  decide +kernel

def EndsInNewline (t : Bytes) : Prop := t = [] ∨ ∃ t0, t = t0 ++ [10]

theorem EndsInNewline.rawLines_append {t : Bytes} (ht : EndsInNewline t) (t' : Bytes) :
    rawLines (t ++ t') = rawLines t ++ rawLines t' := by
  rcases ht with rfl | ⟨t0, rfl⟩
  · rfl
  · simpa [rawLines] using rawLinesAux_append_nl [] t0 t'

/-- **Prefix monotonicity.**  Let `t` end in a newline and let `t'` be any continuation — in
    particular further complete functions, i.e. lines that start with a `TEXT` line.  If the whole
    text `t ++ t'` is extracted without error, so is `t`, and the findings of `t` are a prefix of
    the findings of the whole: nothing found before is removed, changed or reordered. -/
theorem parse_prefix_monotone (p : Parser) (tbl : Nat → Option String) (t t' : Bytes)
    (ht : EndsInNewline t) (r' : List Syscall) (h : parse p tbl (t ++ t') none = .ok r') :
    ∃ r, parse p tbl t none = .ok r ∧ r <+: r' := by
  obtain ⟨_, he, st', hst', rfl⟩ := parse_ok_iff.mp h
  rw [ht.rawLines_append] at he hst'
  obtain ⟨hA, -, st, hr, hst'⟩ := (run_scan_append ..).mp ⟨he, hst'⟩
  exact ⟨st.found, parse_ok_iff.mpr ⟨rfl, hA, st, hr, rfl⟩, run_found_prefix hst'⟩

/-- The other direction: what was found in `t` stays found when text is appended, unless the
    appended text cannot be read (then the whole extraction is an error, by
    `parse_error_on_read_failure`, not a shorter result). -/
theorem parse_prefix_monotone_forward (p : Parser) (hp : p.Solid) (tbl : Nat → Option String) (t t' : Bytes)
    (ht : EndsInNewline t) (r : List Syscall) (h : parse p tbl t none = .ok r) :
    parse p tbl (t ++ t') none = .error ∨ ∃ r', parse p tbl (t ++ t') none = .ok r' ∧ r <+: r' := by
  cases hw : parse p tbl (t ++ t') none with
  | panic => exact absurd hw (parse_total p hp tbl _ none)
  | error => exact Or.inl rfl
  | ok r' =>
    obtain ⟨r0, h0, hpre⟩ := parse_prefix_monotone p tbl t t' ht r' hw
    rw [h] at h0
    cases h0
    exact Or.inr ⟨r', rfl, hpre⟩

/-- Non-vacuity: appending a second function (its `TEXT` line first) adds its finding after the
    first one; and the hypothesis on the newline matters — gluing text to an unfinished last line
    can change the earlier finding (here the site line becomes another instruction). -/
example :
    parse x86_64Parser tbl0 site0 none = .ok [finding0] ∧
    parse x86_64Parser tbl0 (site0 ++ ofStr "TEXT g\nb 1 b8 MOVL $1, AX\nb 2 0f05 SYSCALL\n") none =
      .ok [finding0, { num := 1, name := "write", caller := ofStr "g", function := ofStr "SYSCALL",
                       location := ofStr "b", assembly := ofStr "MOVL $1, AX" }] ∧
    parse x86_64Parser tbl0 (ofStr "TEXT f\na 1 b8 MOVL $1, AX\na 2 0f05 SYSCALL") none =
      .ok [{ num := 1, name := "write", caller := ofStr "f", function := ofStr "SYSCALL",
             location := ofStr "a", assembly := ofStr "MOVL $1, AX" }] ∧
    parse x86_64Parser tbl0 (ofStr "TEXT f\na 1 b8 MOVL $1, AX\na 2 0f05 SYSCALL" ++ ofStr "X\n") none =
      .ok [{ num := 1, name := "write", caller := ofStr "f", function := ofStr "SYSCALLX",
             location := ofStr "a", assembly := ofStr "MOVL $1, AX" }] := by
  refine ⟨site0_finding, ?_⟩
  rw [site0, finding0]
  repeat rw [ofStr_ofList]
  simp only [parseChars.2]
  decide +kernel

end C16
