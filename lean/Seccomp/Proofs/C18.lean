import Seccomp.Proofs.Lemmas.ProfileLemmas
import Seccomp.Proofs.C01
/-!
# C18 — profiles are (found − blacklisted) + allowed, and load back

`Profile.profileNames` is the model of what `cmd/seccomp-profiler main()` does between
`disasm.ExtractSyscalls` and the emitters (tied to the built profiler binary by the `profile`
runs of `vprof`: exact equality of the emitted name lists in both output formats, for all flag
spellings).  `found` ranges over all lists of `(number, name)` sites, `blacklist`/`allow` over all
lists of strings, `tableHas` over all tables.
-/

namespace C18
open Profile

/-- the name of a found syscall is a function of its number (`C16.reported_in_table`: both come from
    one lookup `SyscallNumbers[num]`) -/
def NameOfNumber (found : List (Nat × String)) : Prop :=
  ∀ x ∈ found, ∀ y ∈ found, x.1 = y.1 → x.2 = y.2

/-- … and the number is a function of the name (the table is injective, C12) -/
def NumberOfName (found : List (Nat × String)) : Prop :=
  ∀ x ∈ found, ∀ y ∈ found, x.2 = y.2 → x.1 = y.1

theorem reported_in_table_gives_function (tbl : Nat → Option String) (found : List (Nat × String))
    (h : ∀ x ∈ found, tbl x.1 = some x.2) : NameOfNumber found := by
  intro x hx y hy hxy
  have h1 := h x hx
  have h2 := h y hy
  rw [hxy, h2] at h1
  exact (Option.some.inj h1).symm

/-- **Deduplication by number: which site wins does not matter.**  The names in the map after
    `m[s.Num] = s` over all sites are exactly the names of the sites. -/
theorem last_wins_is_irrelevant (found : List (Nat × String)) (hfun : NameOfNumber found) (s : String) :
    s ∈ (dedupByNum found).map (·.2) ↔ ∃ n, (n, s) ∈ found :=
  dedupByNum_names_mem found hfun s

/-- **Set algebra.**  A name is emitted iff it was found and is not blacklisted, or it is on the
    allow list and the architecture's table knows it:  names = (found ∖ B) ∪ (W ∩ table).
    (No disjointness is needed for this form: an allow-list name is always included, as the flag's
    help text says; for disjoint `B`, `W` it is also ((found ∪ (W ∩ table)) ∖ B).) -/
theorem profile_set_algebra (found : List (Nat × String)) (blacklist allow : List String)
    (tableHas : String → Bool) (hfun : NameOfNumber found) (s : String) :
    s ∈ profileNames found blacklist allow tableHas ↔
      ((∃ n, (n, s) ∈ found) ∧ s ∉ blacklist) ∨ (s ∈ allow ∧ tableHas s = true) := by
  rw [profileNames, sortStrings_mem, mem_ifAllow, mem_ifBlacklist, dedupByNum_names_mem found hfun]

theorem profile_set_algebra_disjoint (found : List (Nat × String)) (blacklist allow : List String)
    (tableHas : String → Bool) (hfun : NameOfNumber found) (hd : ∀ s ∈ allow, s ∉ blacklist) (s : String) :
    s ∈ profileNames found blacklist allow tableHas ↔
      ((∃ n, (n, s) ∈ found) ∨ (s ∈ allow ∧ tableHas s = true)) ∧ s ∉ blacklist := by
  rw [profile_set_algebra found blacklist allow tableHas hfun]
  constructor
  · rintro (⟨h1, h2⟩ | ⟨h1, h2⟩)
    · exact ⟨.inl h1, h2⟩
    · exact ⟨.inr ⟨h1, h2⟩, hd s h1⟩
  · rintro ⟨h1 | h1, h2⟩
    · exact .inl ⟨h1, h2⟩
    · exact .inr h1

/-- **Sorted, free of duplicates**: the emitted list is strictly increasing. -/
theorem profile_sorted_nodup (found : List (Nat × String)) (blacklist allow : List String)
    (tableHas : String → Bool) (hinj : NumberOfName found) :
    (profileNames found blacklist allow tableHas).Pairwise (· < ·) :=
  sortStrings_strict _ (nodup_ifAllow _ _ _ (nodup_ifBlacklist _ _ (dedupByNum_names_nodup found hinj)))

/-- hence it is *the* sorted duplicate-free list of that set: any strictly increasing list with the
    same members — whatever order Go's maps were iterated in — is equal to it -/
theorem profile_is_the_sorted_set (found : List (Nat × String)) (blacklist allow : List String)
    (tableHas : String → Bool) (hfun : NameOfNumber found) (hinj : NumberOfName found)
    (l : List String) (hs : l.Pairwise (· < ·))
    (hm : ∀ s, s ∈ l ↔ ((∃ n, (n, s) ∈ found) ∧ s ∉ blacklist) ∨ (s ∈ allow ∧ tableHas s = true)) :
    l = profileNames found blacklist allow tableHas :=
  sorted_unique _ _ hs (profile_sorted_nodup found blacklist allow tableHas hinj)
    (fun s => by rw [hm, profile_set_algebra found blacklist allow tableHas hfun])

/-- **Only names valid for the architecture**: if the found names are table names, so is every
    emitted name (allow-list names the table does not know are dropped).  (`hfun` is not used:
    `dedupByNum found ⊆ found` is enough.) -/
theorem profile_subset_table (found : List (Nat × String)) (blacklist allow : List String)
    (tableHas : String → Bool) (hfun : NameOfNumber found) (ht : ∀ x ∈ found, tableHas x.2 = true) :
    ∀ s ∈ profileNames found blacklist allow tableHas, tableHas s = true := by
  intro s hs
  rw [profileNames, sortStrings_mem, mem_ifAllow, mem_ifBlacklist] at hs
  rcases hs with ⟨h, _⟩ | ⟨_, h⟩
  · obtain ⟨y, hy, rfl⟩ := List.mem_map.1 h
    exact ht y (dedupByNum_subset found hy)
  · exact h

/-- what `writeProfileConfig` / the code template emit -/
def profilePolicy (names : List String) : Policy :=
  { default := actErrno, groups := [{ names := names, withConds := [], action := actAllow }] }

/-- **The profile compiles to an allow-list.**  Whenever the policy is accepted, the filter answers
    `allow` exactly for the events whose number is the number of one of the profile's names, and
    `errno|EPERM` for every other event (own architecture, no x32 bit) — for the empty profile: `errno`
    for everything. -/
theorem profile_compiles_to_allowlist (A : ArchInfo) (e : Endian) (names : List String) (prog : List Instr)
    (h : assemblePolicy (some A) (Layout.ofEndian e) (profilePolicy names) = .ok prog)
    (ev : Event) (hn : C01.Native A ev) (a0 : Word) :
    run (words e ev) prog a0 =
      .ret (if names.any (fun n => A.number n == some ev.nr) then actAllow else 0x00050001#32) := by
  rw [C01.first_group_decides A e _ prog h ev hn a0]
  simp only [profilePolicy, List.find?_cons, List.find?_nil]
  rw [C01.names_only_matches A _ rfl]
  cases names.any (fun n => A.number n == some ev.nr)
  · simp only [Bool.false_eq_true, if_false]; rfl
  · simp only [if_true]; rfl

theorem listed_iff (A : ArchInfo) (names : List String) (nr : Word) :
    names.any (fun n => A.number n == some nr) = true ↔ ∃ s ∈ names, A.number s = some nr := by
  simp

theorem empty_profile_denies_all (A : ArchInfo) (e : Endian) (prog : List Instr)
    (h : assemblePolicy (some A) (Layout.ofEndian e) (profilePolicy []) = .ok prog)
    (ev : Event) (hn : C01.Native A ev) (a0 : Word) :
    run (words e ev) prog a0 = .ret 0x00050001#32 := by
  rw [profile_compiles_to_allowlist A e [] prog h ev hn a0]; rfl

/-- `stringSlice.Set` appends: a flag given twice is both lists, one after the other -/
theorem repeated_flags_append (vs ws : List String) : parseFlag (vs ++ ws) = parseFlag vs ++ parseFlag ws := by
  simp only [parseFlag_eq, List.flatMap_append]

theorem fields_clean (sep : Char → Bool) : ∀ (cs cur : List Char), (∀ c ∈ cur, sep c = false) →
    ∀ f ∈ fieldsAux sep cs cur, f ≠ [] ∧ ∀ c ∈ f, sep c = false := by
  have closed (cur : List Char) (hne : ¬ cur.isEmpty = true) (hc : ∀ c ∈ cur, sep c = false) :
      cur.reverse ≠ [] ∧ ∀ c ∈ cur.reverse, sep c = false := ⟨by simpa using hne, by simpa using hc⟩
  intro cs cur
  fun_induction fieldsAux sep cs cur with
  | case1 => exact fun _ f hf => nomatch hf
  | case2 cur hne => exact fun hc f hf => List.mem_singleton.1 hf ▸ closed cur hne hc
  | case3 c rest cur _ _ ih => exact fun _ => ih (by simp)
  | case4 c rest cur _ hne ih =>
    intro hc f hf
    rcases List.mem_cons.1 hf with rfl | hf
    · exact closed cur hne hc
    · exact ih (by simp) f hf
  | case5 c rest cur hs ih => exact fun hc => ih (by simpa [hs] using hc)

theorem flag_spellings :
    parseFlag ["a b"] = ["a", "b"] ∧ parseFlag ["a,b"] = ["a", "b"] ∧ parseFlag ["a;b"] = ["a", "b"] ∧
    parseFlag ["a", "b"] = ["a", "b"] ∧ parseFlag [" a ,; b\t"] = ["a", "b"] ∧ parseFlag ["", ",;"] = [] := by
  decide +kernel

def demoFound : List (Nat × String) := [(0, "read"), (1, "write"), (0, "read"), (3, "close"), (2, "open")]
def demoTable (s : String) : Bool := s == "read" || s == "write" || s == "open" || s == "close"

theorem demo_profile :
    profileNames demoFound ["write"] ["open", "bogus", "close"] demoTable = ["close", "open", "read"] ∧
    profileNames demoFound [] [] demoTable = ["close", "open", "read", "write"] ∧
    profileNames [] ["x"] [] demoTable = [] := by
  decide +kernel

theorem demo_profile_accepted :
    (assemblePolicy (some C01.tinyArch) (Layout.ofEndian .little) (profilePolicy ["close", "open", "read"])).toOption.isSome = true ∧
    (assemblePolicy (some C01.tinyArch) (Layout.ofEndian .little) (profilePolicy [])).toOption.isSome = true := by
  decide +kernel

end C18
