import Seccomp.Model.Cache
/-! GENERATED by vextract from /repo/cmd/seccomp-profiler/main.go — do not edit.
    Regenerated on every check run; `C17.tie` proves these definitions equal to the hand-written
    reference `CacheSpec`. -/

namespace Gen
open Cache

/-- `hashBinary` -/
def hashBinary (U : Cache.Unsupported) (binary : Str) (w : World) : (Str × GoErr) × World :=
  let ((f, err), w) := osOpen binary w  -- f, err := os.Open(binary)
  if (err ≠ GoErr.nil) then
    (([], err), w)  -- return "", err
  else
    let dfr1 : World → World := deferred (fileClose f)  -- defer f.Close()
    let h := sha256New  -- h := sha256.New()
    let ((_, err_1), h, w) := ioCopy h (newReader f) w  -- _, err := io.Copy(h, bufio.NewReader(f))
    if (err_1 ≠ GoErr.nil) then
      (([], GoErr.nil), (dfr1 w))  -- return "", nil
    else
      ((hexEncode (hashSum h), GoErr.nil), (dfr1 w))  -- return hex.EncodeToString(h.Sum(nil)), nil

/-- `doObjdump` -/
def doObjdump (U : Cache.Unsupported) (binary : Str) (hash : Str) (w : World) : (Str × GoErr) × World :=
  let ((dumpFile, err), w) := cachedDumpFile binary w  -- dumpFile, err := cachedDumpFile(binary)
  if (err ≠ GoErr.nil) then
    (([], err), w)  -- return "", err
  else
    let ((f, err), w) := osOpen dumpFile w  -- f, err := os.Open(dumpFile)
    if (err = GoErr.nil) then
      let buf := mkBuf 64  -- buf := make([]byte, 256/4)
      let ((n, err_1), buf, w) := fileRead f buf w  -- n, err := f.Read(buf)
      let (_, w) := fileClose f w  -- f.Close()
      if (((err_1 = GoErr.nil) ∧ (n = (buf).length)) ∧ (hash = buf)) then
        let w := logPrintln [(bytes "Using cached objdump.")] w  -- log.Println("Using cached objdump.")
        ((dumpFile, GoErr.nil), w)  -- return dumpFile, nil
      else
        let ((f, err), w) := osCreateTemp (dirOf dumpFile) ((baseOf dumpFile) ++ (bytes ".tmp")) w  -- f, err = os.CreateTemp(filepath.Dir(dumpFile), filepath.Base(dumpFile)+".tmp")
        if (err ≠ GoErr.nil) then
          (([], err), w)  -- return "", err
        else
          let dfr1 : World → World := deferred (osRemove f.name)  -- defer os.Remove(f.Name())
          let dfr2 : World → World := deferred (fileClose f)  -- defer f.Close()
          let out := newWriter f  -- out := bufio.NewWriter(f)
          let ((_, err), w) := writeString out (hash ++ (bytes "\n")) w  -- _, err = out.WriteString(hash + "\n")
          if (err ≠ GoErr.nil) then
            (([], err), (dfr1 (dfr2 w)))  -- return "", err
          else
            let cmd := execCommand [(bytes "go"), (bytes "tool"), (bytes "objdump"), binary]  -- cmd := exec.Command("go", "tool", "objdump", binary)
            let cmd := { cmd with stdout := some out }  -- cmd.Stdout = out
            let (err, w) := cmdRun cmd w  -- err = cmd.Run()
            if (err ≠ GoErr.nil) then
              (([], err), (dfr1 (dfr2 w)))  -- return "", err
            else
              let (err, w) := flush out w  -- err = out.Flush()
              if (err ≠ GoErr.nil) then
                (([], err), (dfr1 (dfr2 w)))  -- return "", err
              else
                let (err, w) := fileClose f w  -- err = f.Close()
                if (err ≠ GoErr.nil) then
                  (([], err), (dfr1 (dfr2 w)))  -- return "", err
                else
                  let (err, w) := osRename f.name dumpFile w  -- err = os.Rename(f.Name(), dumpFile)
                  if (err ≠ GoErr.nil) then
                    (([], err), (dfr1 (dfr2 w)))  -- return "", err
                  else
                    let w := logPrintln [(bytes "objdump written to"), dumpFile] w  -- log.Println("objdump written to", dumpFile)
                    ((dumpFile, GoErr.nil), (dfr1 (dfr2 w)))  -- return dumpFile, nil
    else
      let ((f, err), w) := osCreateTemp (dirOf dumpFile) ((baseOf dumpFile) ++ (bytes ".tmp")) w  -- f, err = os.CreateTemp(filepath.Dir(dumpFile), filepath.Base(dumpFile)+".tmp")
      if (err ≠ GoErr.nil) then
        (([], err), w)  -- return "", err
      else
        let dfr3 : World → World := deferred (osRemove f.name)  -- defer os.Remove(f.Name())
        let dfr4 : World → World := deferred (fileClose f)  -- defer f.Close()
        let out := newWriter f  -- out := bufio.NewWriter(f)
        let ((_, err), w) := writeString out (hash ++ (bytes "\n")) w  -- _, err = out.WriteString(hash + "\n")
        if (err ≠ GoErr.nil) then
          (([], err), (dfr3 (dfr4 w)))  -- return "", err
        else
          let cmd := execCommand [(bytes "go"), (bytes "tool"), (bytes "objdump"), binary]  -- cmd := exec.Command("go", "tool", "objdump", binary)
          let cmd := { cmd with stdout := some out }  -- cmd.Stdout = out
          let (err, w) := cmdRun cmd w  -- err = cmd.Run()
          if (err ≠ GoErr.nil) then
            (([], err), (dfr3 (dfr4 w)))  -- return "", err
          else
            let (err, w) := flush out w  -- err = out.Flush()
            if (err ≠ GoErr.nil) then
              (([], err), (dfr3 (dfr4 w)))  -- return "", err
            else
              let (err, w) := fileClose f w  -- err = f.Close()
              if (err ≠ GoErr.nil) then
                (([], err), (dfr3 (dfr4 w)))  -- return "", err
              else
                let (err, w) := osRename f.name dumpFile w  -- err = os.Rename(f.Name(), dumpFile)
                if (err ≠ GoErr.nil) then
                  (([], err), (dfr3 (dfr4 w)))  -- return "", err
                else
                  let w := logPrintln [(bytes "objdump written to"), dumpFile] w  -- log.Println("objdump written to", dumpFile)
                  ((dumpFile, GoErr.nil), (dfr3 (dfr4 w)))  -- return dumpFile, nil

/-- statements the translator could not render (empty = both functions are inside the subset) -/
def cacheNotes : List String := []

end Gen
