import Seccomp.Model.Bpf
/-!
# Label programs as token streams

One token per call of the public builder (`assembler.go`): `SetLabel l` ↦ `lab l`, every
instruction ↦ `ins`, `JmpIfTrue c k l` ↦ `ins (jif c k l fresh); lab fresh`.  A builder
call sequence *is* the label program; streams compose by `++`.  `runT` is the label-level
meaning: markers are skipped, a conditional jump continues at the nearest marker of its
label ahead (`contAt`), a raw `ja n` skips `n` instructions.
-/

inductive LInstr (L : Type) where
  | ld (off : Nat) | ret (k : Word) | ja (n : Nat) | jif (c : Cond) (k : Word) (tl fl : L)
deriving Repr

inductive Tok (L : Type) where
  | lab (l : L) | ins (i : LInstr L)
deriving Repr

variable {L : Type} [DecidableEq L]

/-- number of tokens to drop from `p` to stand on the marker `lab l` -/
def findLab (l : L) : List (Tok L) → Option Nat
  | [] => none
  | .lab l' :: rest => if l' = l then some 0 else (findLab l rest).map (· + 1)
  | .ins _ :: rest => (findLab l rest).map (· + 1)

/-- drop `n` instructions (and the markers before them) -/
def dropIns : Nat → List (Tok L) → List (Tok L)
  | 0, p => p
  | _+1, [] => []
  | n+1, .lab _ :: rest => dropIns (n+1) rest
  | n+1, .ins _ :: rest => dropIns n rest

omit [DecidableEq L] in
@[simp] theorem dropIns_zero (p : List (Tok L)) : dropIns 0 p = p := by cases p <;> rfl

omit [DecidableEq L] in
theorem dropIns_suffix : ∀ (n : Nat) (p : List (Tok L)), dropIns n p <:+ p
  | 0, p => by simp
  | _+1, [] => List.suffix_refl _
  | n+1, .lab _ :: p => (dropIns_suffix (n+1) p).trans (List.suffix_cons _ _)
  | n+1, .ins _ :: p => (dropIns_suffix n p).trans (List.suffix_cons _ _)

omit [DecidableEq L] in
theorem dropIns_length (n : Nat) (p : List (Tok L)) : (dropIns n p).length ≤ p.length :=
  (dropIns_suffix n p).length_le

def runT (w : Nat → Word) : List (Tok L) → Word → Result
  | [], a => .exit a
  | .lab _ :: rest, a => runT w rest a
  | .ins (.ld off) :: rest, _ => runT w rest (w off)
  | .ins (.ret k) :: _, _ => .ret k
  | .ins (.ja n) :: rest, a => runT w (dropIns n rest) a
  | .ins (.jif c k tl fl) :: rest, a =>
    match findLab (if c.eval a k then tl else fl) rest with
    | none => .stuck
    | some i => runT w (rest.drop i) a
termination_by l => l.length
decreasing_by
  all_goals simp_wf
  · have := dropIns_length n rest; omega
  · omega

/-- continue at marker `l` somewhere in `p` -/
def contAt (w : Nat → Word) (l : L) (p : List (Tok L)) (a : Word) : Result :=
  match findLab l p with
  | none => .stuck
  | some i => runT w (p.drop i) a

@[simp] theorem runT_lab (w) (l : L) (rest a) : runT w (.lab l :: rest) a = runT w rest a := by rw [runT]
@[simp] theorem runT_ld (w) (off) (rest : List (Tok L)) (a) : runT w (.ins (.ld off) :: rest) a = runT w rest (w off) := by rw [runT]
@[simp] theorem runT_ret (w) (k) (rest : List (Tok L)) (a) : runT w (.ins (.ret k) :: rest) a = .ret k := by rw [runT]
@[simp] theorem runT_nil (w) (a) : runT (L := L) w [] a = .exit a := by rw [runT]
theorem runT_ja (w) (n) (rest : List (Tok L)) (a) : runT w (.ins (.ja n) :: rest) a = runT w (dropIns n rest) a := by rw [runT]
theorem runT_jif (w) (c k) (tl fl : L) (rest a) :
    runT w (.ins (.jif c k tl fl) :: rest) a = contAt w (if c.eval a k then tl else fl) rest a := by
  rw [runT]; rfl

def labelsOf : List (Tok L) → List L
  | [] => []
  | .lab l :: rest => l :: labelsOf rest
  | .ins _ :: rest => labelsOf rest

omit [DecidableEq L] in
@[simp] theorem labelsOf_append (p q : List (Tok L)) : labelsOf (p ++ q) = labelsOf p ++ labelsOf q := by
  induction p with
  | nil => rfl
  | cons t rest ih => cases t <;> simp [labelsOf, ih]

omit [DecidableEq L] in
theorem mem_labelsOf {x : L} : ∀ {p : List (Tok L)}, x ∈ labelsOf p ↔ .lab x ∈ p
  | [] => by simp [labelsOf]
  | .lab _ :: p => by simp [labelsOf, mem_labelsOf (p := p)]
  | .ins _ :: p => by simp [labelsOf, mem_labelsOf (p := p)]

theorem findLab_append_not_mem (l : L) (p q : List (Tok L)) (h : l ∉ labelsOf p) :
    findLab l (p ++ q) = (findLab l q).map (· + p.length) := by
  induction p with
  | nil => simp
  | cons t rest ih =>
    cases t with
    | lab l' =>
      simp only [labelsOf, List.mem_cons, not_or] at h
      simp [findLab, Ne.symm h.1, ih h.2, Function.comp_def, Nat.add_assoc]
    | ins i => simp [findLab, ih h, Function.comp_def, Nat.add_assoc]

theorem contAt_append_not_mem (w) (l : L) (p q : List (Tok L)) (a) (h : l ∉ labelsOf p) :
    contAt w l (p ++ q) a = contAt w l q a := by
  unfold contAt
  rw [findLab_append_not_mem l p q h]
  cases findLab l q with
  | none => rfl
  | some i => simp [Nat.add_comm i, ← List.drop_drop]

@[simp] theorem contAt_lab_self (w) (l : L) (q : List (Tok L)) (a) : contAt w l (.lab l :: q) a = runT w q a := by
  simp [contAt, findLab]

theorem contAt_cons_lab_ne (w) (l l' : L) (q : List (Tok L)) (a) (h : l' ≠ l) :
    contAt w l (.lab l' :: q) a = contAt w l q a :=
  contAt_append_not_mem w l [.lab l'] q a (by simpa [labelsOf] using Ne.symm h)

theorem contAt_cons_ins (w) (l : L) (i : LInstr L) (q : List (Tok L)) (a) :
    contAt w l (.ins i :: q) a = contAt w l q a :=
  contAt_append_not_mem w l [.ins i] q a (by simp [labelsOf])
