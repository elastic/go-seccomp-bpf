/-!
# Classic BPF, the subset the compiler emits

`Instr` is exactly what `Policy.Assemble` can emit: `LoadAbsolute{Size: 4}`, `JumpIf`,
`Jump`, `RetConstant`.  The semantics is in *suffix style*: the program is the list of
instructions still ahead, a jump with skip `n` continues with `rest.drop n`.  `w` is the
word view of the 64-byte `seccomp_data` record (`w off` = the 32-bit word at byte offset
`off`).  Leaving through the end is `exit a` (this is how one compiled group hands over
to the next one); a whole filter never does that (`C01.compile_correct`: it returns a value).
-/

abbrev Word := BitVec 32

/-- `bpf.JumpTest` -/
inductive Cond where | eq | ne | gt | lt | ge | le | set | nset
deriving DecidableEq, Repr

/-- meaning of a conditional jump test on accumulator `a` and constant `k` (unsigned) -/
def Cond.eval (c : Cond) (a k : Word) : Bool :=
  match c with
  | .eq => a == k | .ne => a != k
  | .gt => k.ult a | .lt => a.ult k
  | .ge => k.ule a | .le => a.ule k
  | .set => (a &&& k) != 0#32 | .nset => (a &&& k) == 0#32

/-- outcome of running (part of) a filter: a return value, leaving through the end with
    accumulator `a`, or (label level only) a jump to a label that is not placed ahead -/
inductive Result where
  | ret (k : Word) | exit (a : Word) | stuck
deriving DecidableEq, Repr

inductive Instr where
  | ld (off : Nat) | jif (c : Cond) (k : Word) (jt jf : Nat) | ja (n : Nat) | ret (k : Word)
deriving DecidableEq, Repr

/-- concrete semantics, suffix style -/
def run (w : Nat → Word) : List Instr → Word → Result
  | [], a => .exit a
  | .ld off :: rest, _ => run w rest (w off)
  | .ret k :: _, _ => .ret k
  | .ja n :: rest, a => run w (rest.drop n) a
  | .jif c k jt jf :: rest, a => run w (rest.drop (if c.eval a k then jt else jf)) a
termination_by l => l.length
decreasing_by all_goals simp_wf <;> (try simp [List.length_drop]) <;> omega

theorem run_nil (w a) : run w [] a = .exit a := by rw [run]
theorem run_ld (w off rest a) : run w (.ld off :: rest) a = run w rest (w off) := by rw [run]
theorem run_ret (w k rest a) : run w (.ret k :: rest) a = .ret k := by rw [run]
theorem run_ja (w n rest a) : run w (.ja n :: rest) a = run w (rest.drop n) a := by rw [run]
theorem run_jif (w c k jt jf rest a) :
    run w (.jif c k jt jf :: rest) a = run w (rest.drop (if c.eval a k then jt else jf)) a := by rw [run]

/-- sequencing of results: continue only when the first part left through its end -/
def Result.andThen (r : Result) (f : Word → Result) : Result :=
  match r with
  | .ret k => .ret k
  | .exit a => f a
  | .stuck => .stuck
